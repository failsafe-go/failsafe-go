import Failsafe.Basic
import Failsafe.Classify
import Failsafe.Breaker
import Failsafe.Limiter
/-!
# Sequential composition semantics of the eight policies (executor.go and the policy executors)

`Layer := Run → Option (PR × Run)`: a layer maps the run state before to the policy result and the run state after;
`none` is divergence (a wrapped function that blocks until cancelled with nothing that will ever cancel it, or fuel
exhausted in an unlimited retry loop) — never a default value.

`Run` holds the *world* (the stateful policy instances addressed by id, so one instance may occur at several positions or
in several executions), the per-execution counters, the per-position retry executor state, the remaining script of function
outcomes, the cancel scope and the ordered event log with the statistics sampled at each event.

Each `applyPolicy` case transcribes the executor's `Apply` / `PreExecute` / `PostExecute` / `OnSuccess` / `OnFailure`
(FACTS pins the order of effects). Timeout and hedge are modelled for deterministic timed scripts: an outcome is either
instant (completes long before any timer) or blocks until its execution is cancelled.
-/
namespace Failsafe.Exec
open Failsafe Failsafe.Classify

/-- one scripted outcome of the wrapped function -/
structure Item where
  val : Int
  err : Option Err
  blocks : Bool := false      -- returns only once its execution is cancelled
  sleeps : Bool := false      -- takes longer than any configured retry max duration before it returns
  adv : Int := 0              -- the invocation advances the (virtual) clock of the breakers and rate limiters by this much: time passes
                              -- *during* an execution (a breaker's delay elapses between two attempts, a limiter's next permit becomes free)
deriving Repr

/-- an emitted listener call with the execution statistics it observed -/
structure Event where
  name : String
  pos : Nat
  att : Nat
  exe : Nat
  seen : Option Outcome := none    -- for "fn" / "fb.fn": the last outcome the function observed on its execution
deriving Repr, DecidableEq

inductive FbKind | value (v : Int) | error (e : Err) deriving Repr

inductive LimCfg | smooth (c : Limiter.SCfg) | bursty (c : Limiter.BCfg) deriving Repr
inductive LimSt | smooth (s : Limiter.SSt) | bursty (s : Limiter.BSt) deriving Repr

inductive Policy
  | retry (maxRetries : Int) (retLast : Bool) (handle abort : List Cond)
  | breaker (id : Nat) (handle : List Cond)
  | bulkhead (id : Nat)
  | limiter (id : Nat)
  | fallback (k : FbKind) (handle : List Cond)
  | cache (id : Nat) (key : String) (cacheIf : List Nat)
  | timeout
  | hedge (maxHedges : Nat) (cancelOn : List Cond)
deriving Repr

structure World where
  breakers : List (Breaker.Cfg × Breaker.B) := []
  bulk : List (Nat × Nat) := []                    -- (capacity, held)
  caches : List (List (String × Int)) := []
  limiters : List (LimCfg × LimSt) := []
  now : Int := 0
deriving Repr

structure Run where
  w : World
  script : List Item
  ctxKey : Option String := none
  inTimeout : Bool := false        -- some enclosing Timeout will cancel a blocking function
  cancelled : Bool := false        -- the current cancel scope has been cancelled (by its Timeout)
  timeoutPos : Nat := 0
  inv : Nat := 0                   -- function invocations started
  attempts : Nat := 1
  retries : Nat := 0
  hedges : Nat := 0
  execs : Nat := 0                 -- function invocations completed
  failed : List (Nat × Nat) := []  -- per position: the retry executor's failedAttempts
  exceeded : List Nat := []        -- positions whose retry executor has retriesExceeded set
  last : Outcome := ⟨0, none⟩      -- `LastResult` / `LastError` of the execution (copy) the current layers run on
  log : List Event := []
  ext : Option Err := none         -- the execution has been cancelled from outside (context / async Cancel): the cause
  cancelAt : Option (String × Nat) := none   -- scripted cancellation point: the k-th occurrence of an event ("fn", "rp.onRetryScheduled")
  cancelCause : Err := Err.canceled          -- what the scripted cancellation reports (context.Canceled / ErrExecutionCanceled)
  seenAt : Nat := 0                -- occurrences of the cancellation point's event so far
  hedgeAttempt : Bool := false     -- the execution copy the function currently runs on was made by `CopyForHedge` (`IsHedge`)
  mdPos : List Nat := []           -- positions of the retry policies configured with a max duration (static configuration)
  slept : Nat := 0                 -- invocations so far that outlasted the max duration: `ElapsedTime() > maxDuration` iff > 0
  hpLast : Outcome := ⟨0, none⟩    -- `LastResult` / `LastError` of the execution a hedge policy was entered with (every hedge copy starts from it)
deriving Repr

abbrev Layer := Run → Option (PR × Run)

def Run.emit (r : Run) (name : String) (pos : Nat) : Run :=
  { r with log := r.log ++ [⟨name, pos, r.attempts, r.execs, none⟩] }

/-- an event of a user function (the wrapped function or a fallback function) together with the `LastResult`/`LastError` it saw -/
def Run.emitSeen (r : Run) (name : String) (pos : Nat) (o : Outcome) : Run :=
  { r with log := r.log ++ [⟨name, pos, r.attempts, r.execs, some o⟩] }

/-- an event of a listener that is handed `CopyWithResult(result)` of the outcome just recorded as the execution's last one -/
def Run.emitLast (r : Run) (name : String) (pos : Nat) : Run := r.emitSeen name pos r.last

def getFailed (r : Run) (pos : Nat) : Nat := ((r.failed.find? (·.1 == pos)).map (·.2)).getD 0
def setFailed (r : Run) (pos n : Nat) : Run := { r with failed := (pos, n) :: r.failed.filter (·.1 != pos) }

def timeoutResult : PR := failureResult Err.timeout

/-- `IsCanceledWithResult`: the execution the current layers run on is cancelled, by its Timeout or from outside -/
def Run.isCanc (r : Run) : Bool := r.cancelled || r.ext.isSome

/-- the result a cancelled execution reports: the Timeout's stored result, else the external cause (`ctx.Err()` or the
result `ExecutionResult.Cancel` stored) with `Done` set and both success flags clear -/
def Run.cancelRes (r : Run) : PR :=
  if r.cancelled then timeoutResult
  else match r.ext with
    | some e => failureResult e
    | none => timeoutResult

@[simp] theorem Run.cancelRes_done (r : Run) : r.cancelRes.done = true := by
  unfold Run.cancelRes; split
  · rfl
  · split <;> rfl
theorem Run.cancelRes_not_success (r : Run) : r.cancelRes.success = false ∧ r.cancelRes.successAll = false := by
  unfold Run.cancelRes; split
  · exact ⟨rfl, rfl⟩
  · split <;> exact ⟨rfl, rfl⟩

@[simp] theorem Run.isCanc_log (r : Run) (l : List Event) : ({ r with log := l } : Run).isCanc = r.isCanc := rfl
@[simp] theorem Run.cancelRes_log (r : Run) (l : List Event) : ({ r with log := l } : Run).cancelRes = r.cancelRes := rfl

/-- what `LastResult()` / `LastError()` show the user function: the last recorded outcome, except that `LastError` reports the
context's error when no error is recorded and the context is done -/
def Run.seenLast (r : Run) : Outcome :=
  if r.last.err.isNone && r.ext.isSome then ⟨r.last.val, some Err.canceled⟩ else r.last

/-- what a listener that is handed `CopyWithResult(result)` reads: the result's value and error, except that `LastError()` reports
the context's error when the result carries none and the context of the copy is done (cancelled from outside, or the copy
belongs to a Timeout scope that has fired) -/
def Run.seenBy (r : Run) (o : Outcome) : Outcome :=
  if o.err.isNone && (r.ext.isSome || r.cancelled) then ⟨o.val, some Err.canceled⟩ else o

/-- the scripted cancellation fires at the k-th occurrence of its event (the harness cancels from inside that callback) -/
def Run.trigger (r : Run) (name : String) : Run :=
  match r.cancelAt with
  | some (nm, k) =>
    if nm == name then
      { r with seenAt := r.seenAt + 1, ext := if r.seenAt + 1 == k && r.ext.isNone then some r.cancelCause else r.ext }
    else r
  | none => r

/-- the scripted cancellation point touches nothing but `ext` and its own counter -/
theorem Run.trigger_frame (r : Run) (n : String) : ∃ k e, r.trigger n = { r with seenAt := k, ext := e } := by
  unfold Run.trigger
  split
  · split
    · exact ⟨_, _, rfl⟩
    · exact ⟨_, _, rfl⟩
  · exact ⟨_, _, rfl⟩

@[simp] theorem Run.trigger_w (r : Run) (n : String) : (r.trigger n).w = r.w := by obtain ⟨k, e, h⟩ := r.trigger_frame n; rw [h]
@[simp] theorem Run.trigger_script (r : Run) (n : String) : (r.trigger n).script = r.script := by obtain ⟨k, e, h⟩ := r.trigger_frame n; rw [h]
@[simp] theorem Run.trigger_failed (r : Run) (n : String) : (r.trigger n).failed = r.failed := by obtain ⟨k, e, h⟩ := r.trigger_frame n; rw [h]
@[simp] theorem Run.trigger_exceeded (r : Run) (n : String) : (r.trigger n).exceeded = r.exceeded := by obtain ⟨k, e, h⟩ := r.trigger_frame n; rw [h]
@[simp] theorem Run.trigger_log (r : Run) (n : String) : (r.trigger n).log = r.log := by obtain ⟨k, e, h⟩ := r.trigger_frame n; rw [h]
@[simp] theorem Run.trigger_attempts (r : Run) (n : String) : (r.trigger n).attempts = r.attempts := by obtain ⟨k, e, h⟩ := r.trigger_frame n; rw [h]
@[simp] theorem Run.trigger_retries (r : Run) (n : String) : (r.trigger n).retries = r.retries := by obtain ⟨k, e, h⟩ := r.trigger_frame n; rw [h]
@[simp] theorem Run.trigger_hedges (r : Run) (n : String) : (r.trigger n).hedges = r.hedges := by obtain ⟨k, e, h⟩ := r.trigger_frame n; rw [h]
@[simp] theorem Run.trigger_execs (r : Run) (n : String) : (r.trigger n).execs = r.execs := by obtain ⟨k, e, h⟩ := r.trigger_frame n; rw [h]
@[simp] theorem Run.trigger_inv (r : Run) (n : String) : (r.trigger n).inv = r.inv := by obtain ⟨k, e, h⟩ := r.trigger_frame n; rw [h]
@[simp] theorem Run.trigger_cancelled (r : Run) (n : String) : (r.trigger n).cancelled = r.cancelled := by obtain ⟨k, e, h⟩ := r.trigger_frame n; rw [h]
@[simp] theorem Run.trigger_inTimeout (r : Run) (n : String) : (r.trigger n).inTimeout = r.inTimeout := by obtain ⟨k, e, h⟩ := r.trigger_frame n; rw [h]
@[simp] theorem Run.trigger_timeoutPos (r : Run) (n : String) : (r.trigger n).timeoutPos = r.timeoutPos := by obtain ⟨k, e, h⟩ := r.trigger_frame n; rw [h]
@[simp] theorem Run.trigger_last (r : Run) (n : String) : (r.trigger n).last = r.last := by obtain ⟨k, e, h⟩ := r.trigger_frame n; rw [h]
@[simp] theorem Run.trigger_ctxKey (r : Run) (n : String) : (r.trigger n).ctxKey = r.ctxKey := by obtain ⟨k, e, h⟩ := r.trigger_frame n; rw [h]

/-- the user function: pops the next scripted outcome (an exhausted script succeeds with the zero value). A blocking
outcome is released by the enclosing Timeout's timer: listener, then `Cancel(timeoutResult)`. -/
def base : Layer := fun r =>
  -- the function observes the last recorded outcome of its execution
  -- `IsHedge` of the execution the function is handed is part of the event (`fnh`)
  let r := (r.emitSeen (if r.hedgeAttempt then "fnh" else "fn") 0 r.seenLast).trigger "fn"
  match r.script with
  | [] => some (fnResult 0 none, { r with inv := r.inv + 1, execs := r.execs + 1 })
  | it :: rest =>
    let r := { r with script := rest, inv := r.inv + 1, slept := r.slept + (if it.sleeps then 1 else 0),
                      w := { r.w with now := r.w.now + it.adv } }
    if it.blocks then
      if r.ext.isSome then some (fnResult it.val it.err, { r with execs := r.execs + 1 })   -- released by the external cancellation
      else if !r.inTimeout then none
      else
        let r := if r.cancelled then r else r.emit "to.onTimeoutExceeded" r.timeoutPos
        some (fnResult it.val it.err, { r with cancelled := true, execs := r.execs + 1 })
    else some (fnResult it.val it.err, { r with execs := r.execs + 1 })

def updBreaker (r : Run) (id : Nat) (f : Breaker.Cfg → Breaker.B → Breaker.B) : Run :=
  { r with w := { r.w with breakers := r.w.breakers.mapIdx (fun i cb => if i == id then (cb.1, f cb.1 cb.2) else cb) } }

def breakerEventName (e : Breaker.Event) : String :=
  s!"cb[{e.old.str}>{e.new.str}:{e.metrics.1}_{e.metrics.2.1}_{e.metrics.2.2.1}_{e.metrics.2.2.2.1}_{e.metrics.2.2.2.2}]"

/-- move the breaker's freshly emitted state-change events into the run log -/
def drainBreaker (r : Run) (id pos : Nat) : Run :=
  match r.w.breakers[id]? with
  | none => r
  | some (_, b) =>
    let r := b.events.foldl (fun r ev => { r with log := r.log ++ [⟨breakerEventName ev, pos, 0, 0, none⟩] }) r
    updBreaker r id (fun _ b => { b with events := [] })

/-- `maxDuration != 0 && exec.ElapsedTime() > maxDuration` for the retry policy at `pos` -/
def durExceeded (pos : Nat) (r : Run) : Bool := r.mdPos.contains pos && decide (r.slept > 0)

@[simp] theorem durExceeded_emit (pos : Nat) (r : Run) (n : String) (p : Nat) : durExceeded pos (r.emit n p) = durExceeded pos r := rfl
@[simp] theorem durExceeded_emitSeen (pos : Nat) (r : Run) (n : String) (p : Nat) (o : Outcome) : durExceeded pos (r.emitSeen n p o) = durExceeded pos r := rfl
@[simp] theorem durExceeded_emitLast (pos : Nat) (r : Run) (n : String) (p : Nat) : durExceeded pos (r.emitLast n p) = durExceeded pos r := rfl
@[simp] theorem durExceeded_setFailed (pos : Nat) (r : Run) (p n : Nat) : durExceeded pos (setFailed r p n) = durExceeded pos r := rfl

/-- `retrypolicy.executor.OnFailure` decision: (result, run) after a failure was classified -/
def retryOnFailure (pos : Nat) (m : Int) (retLast : Bool) (abort : List Cond) (res1 : PR) (r : Run) : PR × Run :=
  let dur := durExceeded pos r
  -- every listener of the retry policy is handed `CopyWithResult(result)`: it sees the attempt's outcome as the last one
  let r := r.emitSeen "rp.onFailure" pos res1.outcome
  let failed := getFailed r pos + 1
  let r := setFailed r pos failed
  let exc : Bool := decide (m ≠ -1 ∧ (failed : Int) > m) || dur
  let r := if exc then { r with exceeded := pos :: r.exceeded } else r
  let abortable := isAbortable abort res1.outcome
  let shouldRetry := !abortable && !exc && decide (m = -1 ∨ m > 0)
  let done := abortable || !shouldRetry
  let r := if abortable then r.emitSeen "rp.onAbort" pos res1.outcome else r
  let r := if exc && !abortable then r.emitSeen "rp.onRetriesExceeded" pos res1.outcome else r
  if exc && !retLast then
    (failureResult (match res1.err with | some e => .exceededE res1.val e | none => .exceededV res1.val), r)
  else (res1.withDone done false, r)

def retryLoop (pos : Nat) (m : Int) (retLast : Bool) (handle abort : List Cond) (inner : Layer) : Nat → Layer
  | 0 => fun _ => none
  | fuel + 1 => fun r =>
    match inner r with
    | none => none
    | some (res, r) =>
      if r.isCanc then some (r.cancelRes, r) else                -- IsCanceledWithResult
      if r.exceeded.contains pos then some (res, r) else         -- retriesExceeded: pass through
      if isFailure handle res.outcome then
        let (res2, r) := retryOnFailure pos m retLast abort res.withFailure r
        if res2.done then some (res2, r)
        else
          -- RecordResult, delay, InitializeRetry, listeners
          let r := { r with last := res2.outcome }
          let r := (r.emitLast "rp.onRetryScheduled" pos).trigger "rp.onRetryScheduled"
          -- the delay wait is left at once when the execution is cancelled; InitializeRetry then reports the cancellation
          if r.isCanc then some (r.cancelRes, r) else
          let r := { r with attempts := r.attempts + 1, retries := r.retries + 1 }
          let r := r.emitLast "rp.onRetry" pos
          retryLoop pos m retLast handle abort inner fuel r
      else
        let res1 := res.withDone true true
        some (res1, r.emitSeen "rp.onSuccess" pos res.outcome)

/-- one rate-limiter acquisition with max wait 0 at the world's clock: (admitted, new state) -/
def limAcquire (c : LimCfg) (s : LimSt) (now : Int) : Bool × LimSt :=
  match c, s with
  | .smooth c, .smooth s => let r := Limiter.smoothAcquire c s now 1 0; (r.1 != -1, .smooth r.2)
  | .bursty c, .bursty s => let r := Limiter.burstyAcquire c s now 1 0; (r.1 != -1, .bursty r.2)
  | _, s => (false, s)

/-- the hedge coordinator over instant / blocking attempts. `k` attempts have been started, `done` of them have completed,
`blocked` are blocked. -/
def hedgeLoop (pos maxHedges : Nat) (cancelOn : List Cond) (inner : Layer) : Nat → Nat → Nat → Nat → Layer
  | 0, _, _, _ => fun _ => none
  | fuel + 1, k, done, blocked => fun r =>
    -- start attempt k (k = 0: the first attempt, no event; k ≥ 1: a hedge, run on a `CopyForHedge` copy)
    -- every attempt runs on its own copy of the parent execution: what an earlier attempt recorded on its copy is not seen
    let r := if k == 0 then { r with hedgeAttempt := false, hpLast := r.last } else
      ({ r with attempts := r.attempts + 1, hedges := r.hedges + 1, hedgeAttempt := true, last := r.hpLast }).emit "hp.onHedge" pos
    match r.script with
    | it :: _ =>
      if it.blocks then
        -- the attempt blocks; its function has been entered (and has observed the last recorded outcome)
        let r := r.emitSeen (if r.hedgeAttempt then "fnh" else "fn") 0 r.seenLast
        let r := { r with script := r.script.drop 1, inv := r.inv + 1 }
        if k < maxHedges then hedgeLoop pos maxHedges cancelOn inner fuel (k + 1) done (blocked + 1) r
        else
          -- nothing left to start: only an enclosing Timeout can release the blocked attempts
          if !r.inTimeout then none
          else
            let r := if r.cancelled then r else r.emit "to.onTimeoutExceeded" r.timeoutPos
            some (timeoutResult, { r with cancelled := true, execs := r.execs + blocked + 1 })
      else
        match inner r with
        | none => none
        | some (res, r) =>
          -- the coordinator first asks whether the parent execution has been cancelled meanwhile
          if r.isCanc then some (r.cancelRes, { r with execs := r.execs + blocked }) else
          let isFinal := decide (done + 1 = maxHedges + 1)
          if isFinal || isCancellable cancelOn res.outcome then
            -- accepted: the other started attempts are cancelled and return
            some (res, { r with execs := r.execs + blocked })
          else if k < maxHedges then hedgeLoop pos maxHedges cancelOn inner fuel (k + 1) (done + 1) blocked r
          else
            if blocked == 0 then some (res, r)   -- unreachable: the last completion is final
            else if !r.inTimeout then none
            else
              let r := if r.cancelled then r else r.emit "to.onTimeoutExceeded" r.timeoutPos
              some (timeoutResult, { r with cancelled := true, execs := r.execs + blocked })
    | [] =>
      match inner r with
      | none => none
      | some (res, r) =>
        if r.isCanc then some (r.cancelRes, { r with execs := r.execs + blocked }) else
        let isFinal := decide (done + 1 = maxHedges + 1)
        if isFinal || isCancellable cancelOn res.outcome then some (res, { r with execs := r.execs + blocked })
        else if k < maxHedges then hedgeLoop pos maxHedges cancelOn inner fuel (k + 1) (done + 1) blocked r
        else if blocked == 0 then some (res, r)
        else if !r.inTimeout then none
        else
          let r := if r.cancelled then r else r.emit "to.onTimeoutExceeded" r.timeoutPos
          some (timeoutResult, { r with cancelled := true, execs := r.execs + blocked })

def cacheKeyOf (r : Run) (key : String) : String := match r.ctxKey with | some ck => ck | none => key

/-- `(len(cacheConditions) == 0 && err == nil) || AppliesToAny(cacheConditions, result, err)`: every `CacheIf` call adds a condition -/
def shouldCache (cacheIf : List Nat) (res : PR) : Bool :=
  (cacheIf.isEmpty && res.err.isNone) || cacheIf.any (fun p => predicate p res.outcome)

def applyPolicy (fuel pos : Nat) : Policy → Layer → Layer
  | .retry m rl h a, inner => retryLoop pos m rl h a inner fuel
  | .breaker id h, inner => fun r =>
      match r.w.breakers[id]? with
      | none => none
      | some (c, b) =>
        let (b, ok) := Breaker.tryAcquire c b r.w.now
        let r := drainBreaker (updBreaker r id (fun _ _ => b)) id pos
        if !ok then some (failureResult Err.opened, r) else
        match inner r with
        | none => none
        | some (res, r) =>
          if isFailure h res.outcome then
            let r := r.emitSeen "cb.onFailure" pos (r.seenBy res.outcome)
            let r := drainBreaker (updBreaker r id (fun c b => Breaker.record c b r.w.now false true)) id pos
            some (res.withFailure, r)
          else
            let r := r.emitSeen "cb.onSuccess" pos (r.seenBy res.outcome)
            let r := drainBreaker (updBreaker r id (fun c b => Breaker.record c b r.w.now true false)) id pos
            some (res.withDone true true, r)
  | .bulkhead id, inner => fun r =>
      match r.w.bulk[id]? with
      | none => none
      | some (cap, held) =>
        if held < cap then
          let setHeld (r : Run) (h : Nat) : Run := { r with w := { r.w with bulk := r.w.bulk.set id (cap, h) } }
          match inner (setHeld r (held + 1)) with
          | none => none
          | some (res, r) =>
            let held' := ((r.w.bulk[id]?).map (·.2)).getD 0
            some (res, setHeld r (held' - 1))
        else some (failureResult Err.full, r.emit "bh.onFull" pos)
  | .limiter id, inner => fun r =>
      match r.w.limiters[id]? with
      | none => none
      | some (c, s) =>
        let (ok, s') := limAcquire c s r.w.now
        let r := { r with w := { r.w with limiters := r.w.limiters.set id (c, s') } }
        if ok then inner r else some (failureResult Err.rate, r.emit "rl.onRateLimitExceeded" pos)
  | .fallback k h, inner => fun r =>
      match inner r with
      | none => none
      | some (res, r) =>
        if isFailure h res.outcome then
          let r := r.emitSeen "fb.onFailure" pos (r.seenBy res.outcome)
          if r.isCanc then some (r.cancelRes, r) else
          let fo : Outcome := match k with | .value v => ⟨v, none⟩ | .error e => ⟨0, some e⟩
          -- the fallback function sees the failed outcome as the execution's last result
          let r := r.emitSeen "fb.fn" pos res.outcome
          let r := r.emit "fb.onFallbackExecuted" pos
          let ok := !isFailure h fo
          some (⟨fo.val, fo.err, true, ok, ok⟩, r)
        else some (res.withDone true true, r.emitSeen "fb.onSuccess" pos (r.seenBy res.outcome))
  | .timeout, inner => fun r =>
      -- the Timeout runs what is inside it on a cancellable copy of the execution: cancel scope and last outcome are local
      let saved := (r.inTimeout, r.cancelled, r.timeoutPos, r.last)
      match inner { r with inTimeout := true, cancelled := false, timeoutPos := pos } with
      | none => none
      | some (res, r) =>
        let fired := r.cancelled
        let r := { r with inTimeout := saved.1, cancelled := saved.2.1, timeoutPos := saved.2.2.1, last := saved.2.2.2 }
        if fired then some (timeoutResult.withFailure, r)
        else if (match res.err with | some e => e.is Err.TIMEOUT | none => false) then some (res.withFailure, r)
        else some (res.withDone true true, r)
  | .hedge n co, inner => fun r =>
      -- the parent execution's last outcome is not touched by what the attempts record on their copies
      (hedgeLoop pos n co inner (n + 2) 0 0 0 r).map (fun x => (x.1, { x.2 with last := r.last }))
  | .cache id key cif, inner => fun r =>
      let k := cacheKeyOf r key
      let entries := (r.w.caches[id]?).getD []
      match (if k != "" then entries.find? (·.1 == k) else none) with
      | some (_, v) => some (⟨v, none, true, true, true⟩, r.emit "ca.onHit" pos)
      | none =>
        let r := r.emit "ca.onMiss" pos
        match inner r with
        | none => none
        | some (res, r) =>
          if shouldCache cif res && k != "" then
            let entries := (r.w.caches[id]?).getD []
            let entries := (k, res.val) :: entries.filter (·.1 != k)
            let r := { r with w := { r.w with caches := r.w.caches.set id entries } }
            some (res, r.emit "ca.onCache" pos)
          else some (res, r)

/-- `executor.execute`'s composition loop: `policies[i].ToExecutor().Apply(outerFn)` for `i = len-1 … 0` -/
def executeStack (fuel : Nat) : Nat → List Policy → Layer
  | _, [] => base
  | pos, p :: ps => applyPolicy fuel pos p (executeStack fuel (pos + 1) ps)

/-- `executor.execute`: run the stack, then the completion listeners -/
def execute (fuel : Nat) (ps : List Policy) (r : Run) : Option (PR × Run) :=
  match executeStack fuel 0 ps r with
  | none => none
  | some (res, r) =>
    -- the completion events carry the result and error the caller receives (`ExecutionDoneEvent.Result` / `.Error`)
    let r := if res.successAll then r.emitSeen "ex.onSuccess" 0 res.outcome else r.emitSeen "ex.onFailure" 0 res.outcome
    some (res, r.emitSeen "ex.onDone" 0 res.outcome)

end Failsafe.Exec
