import Failsafe.Exec
import Failsafe.Lemmas.ExecBodiesLink
/-!
# C11 — cache: a hit skips everything inside it; only cacheable results are stored

All theorems quantify over an arbitrary inner layer and run state. The last section states the same on the regenerated bodies of
the cache executor (`kernel_*`) and links the model to them.
-/
namespace Failsafe.Props.C11
open Failsafe.Exec Failsafe.Classify

/-- the entry the cache policy would read for this execution: none when the effective key is empty -/
def lookup (r : Run) (id : Nat) (key : String) : Option Int :=
  let k := cacheKeyOf r key
  if k != "" then (((r.w.caches[id]?).getD []).find? (·.1 == k)).map (·.2) else none

/-- the updated cache contents when the policy stores `v` under `k` -/
def stored (r : Run) (id : Nat) (k : String) (v : Int) : Run :=
  { r with w := { r.w with caches := r.w.caches.set id ((k, v) :: ((r.w.caches[id]?).getD []).filter (·.1 != k)) } }

/-- the cache layer in terms of what it reads (`lookup`) and what it writes (`stored`): the theorems below are its cases -/
theorem applyPolicy_cache (fuel pos id : Nat) (key : String) (cif : List Nat) (inner : Layer) (r : Run) :
    applyPolicy fuel pos (.cache id key cif) inner r =
      match lookup r id key with
      | some v => some (⟨v, none, true, true, true⟩, r.emit "ca.onHit" pos)
      | none =>
        match inner (r.emit "ca.onMiss" pos) with
        | none => none
        | some (res, r1) =>
          if shouldCache cif res && cacheKeyOf r key != "" then
            some (res, (stored r1 id (cacheKeyOf r key) res.val).emit "ca.onCache" pos)
          else some (res, r1) := by
  dsimp only [applyPolicy, lookup]
  by_cases hk : (cacheKeyOf r key != "") = true
  · simp only [hk, if_true]
    generalize List.find? _ _ = found
    cases found <;> rfl
  · simp only [hk]; rfl

/-- **a hit skips everything inside**: the cached value is returned with no error and a successful verdict; the result, the
world (every stateful policy inside), the counters and the script are the same **whatever the inner layer is** — it is never
entered; the only event is the hit -/
theorem cache_hit_skips_inner (fuel pos id : Nat) (key : String) (cif : List Nat) (inner : Layer) (r : Run) (v : Int)
    (hhit : lookup r id key = some v) :
    applyPolicy fuel pos (.cache id key cif) inner r = some (⟨v, none, true, true, true⟩, r.emit "ca.onHit" pos) := by
  rw [applyPolicy_cache, hhit]

/-- corollary: on a hit the function is not invoked and no inner policy is affected -/
theorem cache_hit_world_unchanged (fuel pos id : Nat) (key : String) (cif : List Nat) (inner : Layer) (r : Run) (v : Int)
    (hhit : lookup r id key = some v) (res : PR) (r' : Run)
    (h : applyPolicy fuel pos (.cache id key cif) inner r = some (res, r')) :
    r'.w = r.w ∧ r'.inv = r.inv ∧ r'.script = r.script ∧ r'.attempts = r.attempts ∧ res.val = v ∧ res.err = none := by
  rw [cache_hit_skips_inner fuel pos id key cif inner r v hhit] at h
  obtain ⟨rfl, rfl⟩ := h
  simp [Run.emit]

/-- **on a miss the inner result is returned unchanged** (flags included) **and stored iff cacheable and a key exists** -/
theorem cache_miss_spec (fuel pos id : Nat) (key : String) (cif : List Nat) (inner : Layer) (r : Run)
    (hmiss : lookup r id key = none) :
    applyPolicy fuel pos (.cache id key cif) inner r =
      match inner (r.emit "ca.onMiss" pos) with
      | none => none
      | some (res, r1) =>
        if shouldCache cif res && cacheKeyOf r key != "" then
          some (res, (stored r1 id (cacheKeyOf r key) res.val).emit "ca.onCache" pos)
        else some (res, r1) := by
  rw [applyPolicy_cache, hmiss]

/-- stored **iff** the result carries no error (or satisfies the configured `CacheIf` condition) **and** the key is non-empty -/
theorem cache_store_iff (cif : List Nat) (res : PR) :
    shouldCache cif res = true ↔
      (cif = [] ∧ res.err = none) ∨ (∃ p ∈ cif, predicate p res.outcome = true) := by
  unfold shouldCache
  simp

/-- every `CacheIf` call counts: adding a condition never stops an outcome from being stored that an earlier condition accepts -/
theorem cache_conditions_accumulate (cif : List Nat) (q : Nat) (res : PR) (p : Nat) (hp : p ∈ cif)
    (h : predicate p res.outcome = true) : shouldCache (cif ++ [q]) res = true := by
  rw [cache_store_iff]; exact Or.inr ⟨p, by simp [hp], h⟩

/-- a string key supplied through the context takes precedence over the configured key — even when it is empty -/
theorem ctx_key_precedence (r : Run) (key ck : String) (h : r.ctxKey = some ck) : cacheKeyOf r key = ck := by
  simp [cacheKeyOf, h]

theorem configured_key_without_ctx (r : Run) (key : String) (h : r.ctxKey = none) : cacheKeyOf r key = key := by
  simp [cacheKeyOf, h]

/-- with no key the cache is neither read nor written: the layer is the inner layer plus the miss event -/
theorem no_key_no_io (fuel pos id : Nat) (key : String) (cif : List Nat) (inner : Layer) (r : Run)
    (hk : cacheKeyOf r key = "") :
    applyPolicy fuel pos (.cache id key cif) inner r = inner (r.emit "ca.onMiss" pos) := by
  have hmiss : lookup r id key = none := by simp [lookup, hk]
  rw [cache_miss_spec fuel pos id key cif inner r hmiss]
  cases inner (r.emit "ca.onMiss" pos) with
  | none => rfl
  | some x => simp [hk]

/-- history level: the cache instance behaves like a finite map updated by exactly the stores above — a stored value is what
the next lookup under the same key finds, other keys are untouched -/
theorem stored_lookup (r : Run) (id : Nat) (k : String) (v : Int) (hid : id < r.w.caches.length) (hk : k ≠ "") (key : String)
    (hkey : cacheKeyOf (stored r id k v) key = k) : lookup (stored r id k v) id key = some v := by
  simp only [lookup, hkey]
  have : (k != "") = true := by simpa using hk
  simp only [this, if_true, stored]
  simp [hid]

example : lookup { w := { caches := [[("k1", 5)]] }, script := [] } 0 "k1" = some 5 := by decide
example : lookup { w := { caches := [[("k1", 5)]] }, script := [], ctxKey := some "" } 0 "k1" = none := by decide

/-! ## On the regenerated bodies of the cache executor

`ExecBodies.cachePre / cachePost / getCacheKey` are the reference definitions the bodies of `PreExecute`, `PostExecute` and
`getCacheKey` — regenerated from the source on every run — are proved equal to (`Tie/XCache.lean`); `cache_link` shows that the
model's cache layer computes them. -/
section kernel
open Failsafe.ExecBodies

/-- **a string under `CacheKey` in the context wins over the configured key, even when it is empty**; any other value does not -/
theorem kernel_key_precedence (key : String) :
    (∀ k, getCacheKey ⟨key, some (.str k), some (), some (), some ()⟩ = k) ∧
    getCacheKey ⟨key, some .other, some (), some (), some ()⟩ = key ∧ getCacheKey ⟨key, none, some (), some (), some ()⟩ = key :=
  ⟨fun _ => rfl, rfl, rfl⟩

/-- **a hit**: exactly when the effective key is not empty and the cache holds it; the result is the cached value, no error, final
and a success; otherwise `PreExecute` lets the execution through (and `OnCacheMiss` fires, also without a key) -/
theorem kernel_hit_iff (c : CCfg) (s : CSt) :
    (cachePre c s).1 = (if getCacheKey c != "" then (cacheGet s (getCacheKey c)).map (fun v => ⟨v, none, true, true, true⟩) else none) ∧
    (cachePre c s).2.entries = s.entries := by
  -- the listeners only append to the log
  have hHit : (if c.onHit.isSome then cOnHit s else s).entries = s.entries := by split <;> rfl
  have hMiss : (if c.onMiss.isSome then cOnMiss s else s).entries = s.entries := by split <;> rfl
  unfold cachePre
  by_cases hk : (getCacheKey c != "") = true
  · simp only [hk, if_true]
    cases cacheGet s (getCacheKey c) with
    | none => exact ⟨rfl, hMiss⟩
    | some v => exact ⟨rfl, hHit⟩
  · simp only [hk]
    exact ⟨rfl, hMiss⟩

/-- **a store**: exactly when the result is cacheable (no conditions and no error, or some condition applies) and the effective key
is not empty; the inner result is returned untouched either way -/
theorem kernel_store_iff (c : CCfg) (s : CSt) (n : Nat) (ca : Bool) (er : PR) :
    (cachePost c s n ca er).1 = er ∧
    (cachePost c s n ca er).2.entries =
      (if ((n == 0 && er.err.isNone) || ca) && getCacheKey c != "" then (getCacheKey c, er.val) :: s.entries.filter (·.1 != getCacheKey c)
       else s.entries) := by
  unfold cachePost
  simp only []
  split
  · exact ⟨rfl, by split <;> rfl⟩
  · exact ⟨rfl, rfl⟩

/-- without a key there is no read and no write -/
theorem kernel_no_key_no_io (c : CCfg) (s : CSt) (n : Nat) (ca : Bool) (er : PR) (h : getCacheKey c = "") :
    (cachePre c s).1 = none ∧ (cachePost c s n ca er).2.entries = s.entries := by
  constructor
  · rw [(kernel_hit_iff c s).1]; simp [h]
  · rw [(kernel_store_iff c s n ca er).2]; simp [h]

/-- **the composition model's cache layer is the code's** -/
theorem model_cache_layer_is_the_codes (fuel pos id : Nat) (key : String) (cif : List Nat) (inner : Layer) (r : Run) :
    applyPolicy fuel pos (.cache id key cif) inner r =
      (let c := Failsafe.Lemmas.ExecBodiesLink.cacheCfg r key
       match (ExecBodies.cachePre c ⟨(r.w.caches[id]?).getD [], []⟩).1 with
       | some hit => some (hit, r.emit "ca.onHit" pos)
       | none =>
         match inner (r.emit "ca.onMiss" pos) with
         | none => none
         | some (res, r2) =>
           let post := ExecBodies.cachePost c ⟨(r2.w.caches[id]?).getD [], []⟩ cif.length (cif.any (fun p => predicate p res.outcome)) res
           some (post.1, if post.2.log = [] then r2
                         else ({ r2 with w := { r2.w with caches := r2.w.caches.set id post.2.entries } }).emit "ca.onCache" pos)) :=
  Failsafe.Lemmas.ExecBodiesLink.cache_link fuel pos id key cif inner r

end kernel

end Failsafe.Props.C11
