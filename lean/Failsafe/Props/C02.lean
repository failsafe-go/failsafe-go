import Failsafe.Lemmas.Layer
import Failsafe.Lemmas.ExecBodiesLink
/-!
# C02 — retry: bounded attempts, stops at first success or abort, correct final result

Theorems are about `retryLoop` / `retryOnFailure` of the composition model for an **arbitrary inner layer** unless stated.
`pos` is the retry policy's position; its executor state (`failedAttempts`, `retriesExceeded`) is per execution and per
position (`Run.failed`, `Run.exceeded`), created empty by every execution (the world carries no retry state at all).
The last section states the retry decision on the regenerated body of `retrypolicy.executor.OnFailure` (`kernel_*`) and links the
model to it.
-/
namespace Failsafe.Props.C02
open Failsafe.Exec Failsafe.Classify

theorem getFailed_setFailed (r : Run) (pos n : Nat) : getFailed (setFailed r pos n) pos = n := by
  simp [getFailed, setFailed]

theorem getFailed_emit (r : Run) (nm : String) (p pos : Nat) : getFailed (r.emit nm p) pos = getFailed r pos := rfl

def failedAt (pos : Nat) (r : Run) : Nat := getFailed r pos

@[simp] theorem failedAt_emit (pos : Nat) (r : Run) (nm : String) (p : Nat) : failedAt pos (r.emit nm p) = failedAt pos r := rfl
@[simp] theorem failedAt_emitSeen (pos : Nat) (r : Run) (nm : String) (p : Nat) (o : Outcome) : failedAt pos (r.emitSeen nm p o) = failedAt pos r := rfl
@[simp] theorem failedAt_emitLast (pos : Nat) (r : Run) (nm : String) (p : Nat) : failedAt pos (r.emitLast nm p) = failedAt pos r := rfl
@[simp] theorem failedAt_exceeded (pos : Nat) (r : Run) (l : List Nat) : failedAt pos { r with exceeded := l } = failedAt pos r := rfl
@[simp] theorem failedAt_setFailed (pos : Nat) (r : Run) (n : Nat) : failedAt pos (setFailed r pos n) = n :=
  getFailed_setFailed r pos n
@[simp] theorem failedAt_trigger (pos : Nat) (r : Run) (nm : String) : failedAt pos (r.trigger nm) = failedAt pos r := by
  simp [failedAt, getFailed]
@[simp] theorem failedAt_last (pos : Nat) (r : Run) (o : Outcome) : failedAt pos { r with last := o } = failedAt pos r := rfl
@[simp] theorem failedAt_retryScheduled (pos p : Nat) (x : PR × Run) : failedAt pos (retryScheduled p x) = failedAt pos x.2 := by
  simp [retryScheduled]
@[simp] theorem failedAt_retryNext (pos p : Nat) (r : Run) : failedAt pos (retryNext p r) = failedAt pos r := rfl

/-- `OnFailure` counts the failure -/
theorem retryOnFailure_failed (pos : Nat) (m : Int) (rl : Bool) (a : List Cond) (res : PR) (r : Run) :
    failedAt pos (retryOnFailure pos m rl a res r).2 = failedAt pos r + 1 := by
  rw [retryOnFailure_snd]; simp [failedAt, getFailed]

/-- a retry is only decided while the budget is not exhausted -/
theorem retryOnFailure_not_done (pos : Nat) (m : Int) (rl : Bool) (a : List Cond) (res : PR) (r : Run)
    (h : (retryOnFailure pos m rl a res r).1.done = false) :
    ¬ (m ≠ -1 ∧ ((failedAt pos r + 1 : Nat) : Int) > m) ∧ durExceeded pos r = false ∧ (m = -1 ∨ m > 0) ∧ isAbortable a res.outcome = false := by
  rw [retryOnFailure_fst] at h
  split at h
  · cases h
  · simp only [PR.withDone, Bool.or_eq_false_iff, Bool.not_eq_false', Bool.and_eq_true, Bool.not_eq_true',
      decide_eq_false_iff_not, decide_eq_true_eq] at h
    obtain ⟨hab, ⟨_, hexc, hdur⟩, hallow⟩ := h
    exact ⟨hexc, hdur, hallow, hab⟩

def excAt (pos : Nat) (r : Run) : Bool := r.exceeded.contains pos

@[simp] theorem excAt_emit (pos : Nat) (r : Run) (nm : String) (p : Nat) : excAt pos (r.emit nm p) = excAt pos r := rfl
@[simp] theorem excAt_emitSeen (pos : Nat) (r : Run) (nm : String) (p : Nat) (o : Outcome) : excAt pos (r.emitSeen nm p o) = excAt pos r := rfl
@[simp] theorem excAt_emitLast (pos : Nat) (r : Run) (nm : String) (p : Nat) : excAt pos (r.emitLast nm p) = excAt pos r := rfl
@[simp] theorem excAt_setFailed (pos : Nat) (r : Run) (p n : Nat) : excAt pos (setFailed r p n) = excAt pos r := rfl
@[simp] theorem excAt_cons (pos : Nat) (r : Run) : excAt pos { r with exceeded := pos :: r.exceeded } = true := by
  simp [excAt]
@[simp] theorem excAt_trigger (pos : Nat) (r : Run) (nm : String) : excAt pos (r.trigger nm) = excAt pos r := by
  simp [excAt]
@[simp] theorem excAt_last (pos : Nat) (r : Run) (o : Outcome) : excAt pos { r with last := o } = excAt pos r := rfl
@[simp] theorem excAt_retryScheduled (pos p : Nat) (x : PR × Run) : excAt pos (retryScheduled p x) = excAt pos x.2 := by
  simp [retryScheduled]
@[simp] theorem excAt_retryNext (pos p : Nat) (r : Run) : excAt pos (retryNext p r) = excAt pos r := rfl

/-- `OnFailure` sets `retriesExceeded` exactly when the count passes `maxRetries` or the max duration has elapsed; once set it stays -/
theorem retryOnFailure_exceeded (pos : Nat) (m : Int) (rl : Bool) (a : List Cond) (res : PR) (r : Run) :
    excAt pos (retryOnFailure pos m rl a res r).2 =
      (decide (m ≠ -1 ∧ ((failedAt pos r + 1 : Nat) : Int) > m) || durExceeded pos r || excAt pos r) := by
  rw [retryOnFailure_snd]
  unfold failedAt excAt
  generalize (decide (m ≠ -1 ∧ ((getFailed r pos + 1 : Nat) : Int) > m) || durExceeded pos r) = exc
  cases exc <;> simp

/-! ## the budget -/

/-- executor invariant: at most `m + 1` failures have been counted, and once the count passes `m` the executor is exhausted -/
def Budget (pos : Nat) (m : Int) (r : Run) : Prop :=
  (failedAt pos r : Int) ≤ m + 1 ∧ ((failedAt pos r : Int) > m → excAt pos r = true)

/-- the invariant reads nothing but the executor's own two fields -/
theorem Budget.of_eq {pos : Nat} {m : Int} {r r' : Run} (hb : Budget pos m r) (hf : failedAt pos r' = failedAt pos r)
    (he : excAt pos r' = excAt pos r) : Budget pos m r' := by
  unfold Budget; rw [hf, he]; exact hb

/-- the retry layer preserves its executor's invariant, when what is inside leaves the executor's state alone -/
theorem retryLoop_budget (pos : Nat) (m : Int) (rl : Bool) (h a : List Cond) (inner : Layer)
    (hin : ∀ r res r1, inner r = some (res, r1) → failedAt pos r1 = failedAt pos r ∧ excAt pos r1 = excAt pos r) :
    ∀ fuel, Exec.Preserves (Budget pos m) (retryLoop pos m rl h a inner fuel) := by
  intro fuel
  induction fuel with
  | zero => intro r _; exact .none
  | succ n ih =>
    intro r hb
    rw [retryLoop_succ]
    refine .bind (hin r) fun res1 r1 ⟨hf1, he1⟩ => ?_
    have hb1 := hb.of_eq hf1 he1
    refine
      .ite (fun _ => .some hb1) fun _ =>                        -- cancelled
      .ite (fun _ => .some hb1) fun he =>                       -- exhausted
      .ite (fun _ => ?_)                                        -- a failure: below
      fun _ => .some hb1                                        -- a success
    -- not exhausted, so at most `m` failures so far; this one is counted, and flagged if it is one too many
    have hle : (failedAt pos r1 : Int) ≤ m := Int.not_lt.mp fun hgt => he (hb1.2 hgt)
    have hb2 : Budget pos m (retryOnFailure pos m rl a res1.withFailure r1).2 := by
      unfold Budget
      rw [retryOnFailure_failed, retryOnFailure_exceeded]
      refine ⟨by push_cast; omega, fun hgt => ?_⟩
      rw [decide_eq_true (⟨by omega, hgt⟩ : m ≠ -1 ∧ _)]; rfl
    have hb3 := hb2.of_eq (failedAt_retryScheduled pos pos _) (excAt_retryScheduled pos pos _)
    exact
      .ite (fun _ => .some hb2) fun _ =>                        -- final
      .ite (fun _ => .some hb3) fun _ =>                        -- cancelled while waiting
      ih _ (hb3.of_eq (failedAt_retryNext ..) (excAt_retryNext ..))   -- next round

/-- **bounded**: with `maxRetries = m ≥ 0`, whatever is inside (as long as it leaves this executor's state alone, which every
layer at a different position does), the retry layer counts at most `m + 1` failures per execution — it re-invokes what it
wraps at most `m` times -/
theorem retry_budget (pos : Nat) (m : Int) (hm : 0 ≤ m) (rl : Bool) (h a : List Cond) (inner : Layer)
    (hin : ∀ r res r1, inner r = some (res, r1) → failedAt pos r1 = failedAt pos r ∧ excAt pos r1 = excAt pos r) :
    ∀ fuel r res r', retryLoop pos m rl h a inner fuel r = some (res, r') → Budget pos m r → Budget pos m r' :=
  fun fuel r res r' hh hb => retryLoop_budget pos m rl h a inner hin fuel r hb res r' hh

/-- **at most `maxRetries + 1` invocations**: with `maxRetries = m ≥ 0` and an inner layer that invokes the function at most once
per call (the function itself, or any stack of policies that do not re-invoke), an execution through the retry layer invokes
the function at most `m + 1 - (failures counted so far)` more times — `m + 1` times for a fresh execution -/
theorem retry_invocations_bounded (pos : Nat) (m : Int) (hm : 0 ≤ m) (rl : Bool) (h a : List Cond) (inner : Layer)
    (hin : ∀ r res r1, inner r = some (res, r1) →
      failedAt pos r1 = failedAt pos r ∧ excAt pos r1 = excAt pos r ∧ r1.inv ≤ r.inv + 1) :
    ∀ fuel r res r', retryLoop pos m rl h a inner fuel r = some (res, r') → (failedAt pos r : Int) ≤ m →
      (r'.inv : Int) ≤ r.inv + (m + 1 - failedAt pos r) := by
  intro fuel
  induction fuel with
  | zero => intro r res r' hh; cases hh
  | succ n ih =>
    intro r res r' hh hb
    revert res r' hh
    show Answers _ _
    rw [retryLoop_succ]
    refine .bind (hin r) fun res1 r1 ⟨hf1, _, hi1⟩ => ?_
    have h1 : (r1.inv : Int) ≤ r.inv + (m + 1 - failedAt pos r) := by omega
    refine
      .ite (fun _ => .some h1) fun _ =>                         -- cancelled
      .ite (fun _ => .some h1) fun _ =>                         -- exhausted
      .ite (fun _ => ?_)                                        -- a failure: below
      fun _ => .some h1                                         -- a success
    -- the failure is counted and no invocation is made until the next round
    have hinv : (retryOnFailure pos m rl a res1.withFailure r1).2.inv = r1.inv := by rw [retryOnFailure_snd]
    refine
      .ite (fun _ => .some (by rw [hinv]; exact h1)) fun hd =>                          -- final
      .ite (fun _ => .some (by rw [retryScheduled_inv, hinv]; exact h1))                -- cancelled while waiting
      fun _ _ _ hh => ?_                                                                -- next round
    have hnd := (retryOnFailure_not_done pos m rl a res1.withFailure r1 (by simpa using hd)).1
    have hf : failedAt pos (retryNext pos (retryScheduled pos (retryOnFailure pos m rl a res1.withFailure r1))) = failedAt pos r1 + 1 := by
      rw [failedAt_retryNext, failedAt_retryScheduled, retryOnFailure_failed]
    have := ih _ _ _ hh (by rw [hf]; push_cast; omega)
    rw [hf, retryNext_inv, retryScheduled_inv, hinv] at this
    push_cast at this
    omega

/-- the wrapped function is invoked at most once per call of the innermost layer, and the call leaves every retry executor's
state alone -/
theorem base_step (pos : Nat) (r r1 : Run) (res : PR) (h : base r = some (res, r1)) :
    failedAt pos r1 = failedAt pos r ∧ excAt pos r1 = excAt pos r ∧ r1.inv ≤ r.inv + 1 := by
  have h0 : failedAt pos r.enter = failedAt pos r ∧ excAt pos r.enter = excAt pos r ∧ r.enter.inv + 1 ≤ r.inv + 1 := by
    obtain ⟨l, k, e, he⟩ := r.enter_frame
    rw [he]; exact ⟨rfl, rfl, Nat.le_refl _⟩
  rcases base_cases h with ⟨_, _, rfl⟩ | ⟨it, rest, _, _, rfl | rfl⟩
  · exact h0
  · exact h0
  · obtain ⟨l, he⟩ := (r.enter.pop it rest).fire_frame 1
    rw [he]; exact h0

/-- **at most `maxRetries + 1` invocations when it is the only policy**: a fresh execution of the stack `[retry m …]` around the
function, for every script of outcomes (instant, blocking or sleeping), every handle / abort configuration and whatever
cancellation is scripted, invokes the function at most `m + 1` times -/
theorem retry_only_policy_invocations (m : Int) (hm : 0 ≤ m) (rl : Bool) (h a : List Cond) (fuel : Nat)
    (w : World) (sc : List Item) (ck : Option String) (res : PR) (r' : Run)
    (hx : executeStack fuel 0 [.retry m rl h a] { w := w, script := sc, ctxKey := ck } = some (res, r')) :
    (r'.inv : Int) ≤ m + 1 := by
  have := retry_invocations_bounded 0 m hm rl h a base (fun r res r1 hb => base_step 0 r r1 res hb) fuel
    { w := w, script := sc, ctxKey := ck } res r' (by simpa [executeStack, applyPolicy] using hx)
    (by simp [failedAt, getFailed]; omega)
  simpa [failedAt, getFailed] using this

/-- a fresh execution satisfies the invariant: every execution starts with an empty executor state -/
theorem budget_fresh (pos : Nat) (m : Int) (hm : 0 ≤ m) (w : World) (sc : List Item) (ck : Option String) :
    Budget pos m { w := w, script := sc, ctxKey := ck } := by
  unfold Budget failedAt getFailed excAt
  simp; omega

/-! ## when it stops, and with what -/

/-- **never after a success**: an outcome the policy does not classify as a failure ends the loop at once, unchanged -/
theorem retry_stops_on_success (pos : Nat) (m : Int) (rl : Bool) (h a : List Cond) (inner : Layer) (fuel : Nat) (r : Run)
    (res1 : PR) (r1 : Run) (hi : inner r = some (res1, r1)) (hc : r1.isCanc = false)
    (he : r1.exceeded.contains pos = false) (hs : isFailure h res1.outcome = false) :
    retryLoop pos m rl h a inner (fuel + 1) r = some (res1.withDone true true, r1.emitSeen "rp.onSuccess" pos res1.outcome) := by
  simp only [retryLoop, hi, hc, he, hs, Bool.false_eq_true, if_false]

/-- **the final result**: after a failure that ends the loop the caller gets `ExceededError{last result, last error}` when the
budget is exhausted (unless `ReturnLastFailure`), otherwise the failed outcome itself, unchanged -/
theorem retry_final_result (pos : Nat) (m : Int) (rl : Bool) (a : List Cond) (res1 : PR) (r : Run) :
    let exc : Bool := decide (m ≠ -1 ∧ ((failedAt pos r + 1 : Nat) : Int) > m) || durExceeded pos r
    (retryOnFailure pos m rl a res1 r).1 =
      if exc && !rl then
        failureResult (match res1.err with | some e => .exceededE res1.val e | none => .exceededV res1.val)
      else res1.withDone (isAbortable a res1.outcome || !(!isAbortable a res1.outcome && !exc && decide (m = -1 ∨ m > 0))) false :=
  retryOnFailure_fst pos m rl a res1 r

/-- **never after a failure handled once the max duration has elapsed**: such a failure ends the loop, and the caller gets
`ExceededError` carrying that failure (or the failure itself with `ReturnLastFailure`), whatever the retry budget -/
theorem retry_stops_after_max_duration (pos : Nat) (m : Int) (rl : Bool) (a : List Cond) (res1 : PR) (r : Run)
    (hd : durExceeded pos r = true) :
    (retryOnFailure pos m rl a res1 r).1.done = true ∧
    (rl = false → (retryOnFailure pos m rl a res1 r).1 =
        failureResult (match res1.err with | some e => .exceededE res1.val e | none => .exceededV res1.val)) ∧
    (rl = true → (retryOnFailure pos m rl a res1 r).1 = res1.withDone true false) := by
  rw [retry_final_result]
  simp only [hd, Bool.or_true, Bool.true_and]
  cases rl <;> simp [failureResult, PR.withDone]

/-- an abort-matching failure ends the loop (`done`), whatever the budget -/
theorem retry_abort_stops (pos : Nat) (m : Int) (rl : Bool) (a : List Cond) (res1 : PR) (r : Run)
    (hab : isAbortable a res1.outcome = true) : (retryOnFailure pos m rl a res1 r).1.done = true := by
  rw [retry_final_result]
  split
  · rfl
  · simp [PR.withDone, hab]

/-- once exhausted the executor handles nothing more in this execution: inner results pass through untouched -/
theorem retry_exhausted_passthrough (pos : Nat) (m : Int) (rl : Bool) (h a : List Cond) (inner : Layer) (fuel : Nat) (r : Run)
    (res1 : PR) (r1 : Run) (hi : inner r = some (res1, r1)) (hc : r1.isCanc = false)
    (he : r1.exceeded.contains pos = true) :
    retryLoop pos m rl h a inner (fuel + 1) r = some (res1, r1) := by
  simp only [retryLoop, hi, hc, he, Bool.false_eq_true, if_false, if_true]

/-- **the budget belongs to one execution**: the world that survives an execution has no retry component, and every
execution starts from the empty executor state — two executions can only influence each other through the stateful
policies of the world -/
theorem retry_budget_per_execution (w : World) (sc : List Item) (ck : Option String) :
    ({ w := w, script := sc, ctxKey := ck } : Run).failed = [] ∧ ({ w := w, script := sc, ctxKey := ck } : Run).exceeded = [] :=
  ⟨rfl, rfl⟩

example : Budget 0 2 { w := {}, script := [] } := budget_fresh 0 2 (by decide) {} [] none

/-- non-vacuity of `retry_invocations_bounded`: a terminating retry loop around a layer that invokes once per call -/
example : (retryLoop 0 1 false [] [] (fun r => some (⟨0, none, true, true, true⟩, { r with inv := r.inv + 1 })) 1
    { w := {}, script := [] }).isSome = true := by decide

/-! ## The retry decision, on the regenerated body of `retrypolicy.executor.OnFailure`

`ExecBodies.retryOnFailure` is the reference definition the body regenerated from the source on every run is proved equal to
(`Tie/XRetry.lean`); `retryOnFailure_link` shows that the composition model's `Exec.retryOnFailure` computes it. -/
section kernel
open Failsafe.ExecBodies

/-- **the budget**: the executor's `retriesExceeded` is set exactly when this failure is beyond `maxRetries` (never for -1) or was
handled after the max duration had elapsed; each failure counts once -/
theorem kernel_exceeded_iff (c : RCfg) (s : RSt) (el : Int) (ab : Bool) (res : PR) :
    (ExecBodies.retryOnFailure c s el ab res).2.exceeded =
        ((c.maxRetries != -1 && decide (s.failed + 1 > c.maxRetries)) || (c.maxDuration != 0 && decide (el > c.maxDuration))) ∧
      (ExecBodies.retryOnFailure c s el ab res).2.failed = s.failed + 1 := by
  rw [Failsafe.Lemmas.ExecBodiesLink.retryOnFailure_ref]
  exact ⟨rfl, rfl⟩

/-- **the final result**: a budget that is exceeded yields `ExceededError` wrapping the last outcome, or the last outcome itself with
`ReturnLastFailure`; otherwise the outcome is returned, final (`Done`) exactly when it aborts or no retry is allowed -/
theorem kernel_result (c : RCfg) (s : RSt) (el : Int) (ab : Bool) (res : PR) :
    let exc := retryExceeded c (s.failed + 1) el
    (ExecBodies.retryOnFailure c s el ab res).1 =
      if exc && !c.returnLastFailure then exceededResult res
      else res.withDone (ab || !(!ab && !exc && allowsRetries c)) false := by
  rw [Failsafe.Lemmas.ExecBodiesLink.retryOnFailure_ref]

/-- never a success, whatever the configuration: a handled failure leaves the retry policy as a failure -/
theorem kernel_result_not_success (c : RCfg) (s : RSt) (el : Int) (ab : Bool) (res : PR) :
    (ExecBodies.retryOnFailure c s el ab res).1.success = false ∧ (ExecBodies.retryOnFailure c s el ab res).1.successAll = false := by
  have h := kernel_result c s el ab res
  rw [h]
  split <;> simp [exceededResult, failureResult, PR.withDone]

/-- **listeners**: `OnFailure` first, always; then `OnAbort` iff the outcome aborts; then `OnRetriesExceeded` iff the budget is exceeded
and the outcome does not abort — never both for one failure, each at most once -/
theorem kernel_listeners (c : RCfg) (s : RSt) (el : Int) (ab : Bool) (res : PR) (h1 : c.onAbort = some ()) (h2 : c.onRetriesExceeded = some ()) :
    (ExecBodies.retryOnFailure c s el ab res).2.log =
      s.log ++ ["onFailure"] ++ (if ab then ["onAbort"] else []) ++
        (if retryExceeded c (s.failed + 1) el && !ab then ["onRetriesExceeded"] else []) := by
  rw [Failsafe.Lemmas.ExecBodiesLink.retryOnFailure_ref, h1, h2]
  simp only [Option.isSome_some, Bool.and_true]

/-- **the composition model's retry decision is the code's** -/
theorem model_retry_decision_is_the_codes (pos : Nat) (m : Int) (rl : Bool) (abort : List Cond) (res1 : PR) (r : Run)
    (md elapsed : Int) (hd : (md != 0 && decide (elapsed > md)) = durExceeded pos r) :
    let k := ExecBodies.retryOnFailure ⟨m, md, rl, some (), some ()⟩ (Failsafe.Lemmas.ExecBodiesLink.retrySt r pos) elapsed (isAbortable abort res1.outcome) res1
    let x := Exec.retryOnFailure pos m rl abort res1 r
    x.1 = k.1 ∧ (getFailed x.2 pos : Int) = k.2.failed ∧
      x.2.exceeded = (if k.2.exceeded then pos :: r.exceeded else r.exceeded) ∧
      x.2.log.map (·.name) = r.log.map (·.name) ++ k.2.log.map ("rp." ++ ·) :=
  Failsafe.Lemmas.ExecBodiesLink.retryOnFailure_link pos m rl abort res1 r md elapsed hd

/-- **the composition model's retry loop is the code's loop** (`retrypolicy.executor.Apply`, regenerated and tied on every run): one
unfolding of the model's loop is one iteration of the code's, over the model's operations; whether the loop ends, with what, and in
which order the inner call, the cancellation check, the exhausted pass-through, `PostExecute`, `RecordResult`, `OnRetryScheduled`, the
wait, `InitializeRetry` and `OnRetry` happen is what the source says now -/
theorem model_retry_loop_is_the_codes (pos : Nat) (m : Int) (rl : Bool) (h a : List Cond) (inner : Layer) (fuel : Nat) (r r1 : Run) (res : PR)
    (hi : inner r = some (res, r1)) :
    retryLoop pos m rl h a inner (fuel + 1) r =
      (match ExecBodies.retryIter (Failsafe.Lemmas.ExecBodiesLink.retryOps pos m rl h a res r1) r with
       | (some out, r') => some (out, r')
       | (none, r') => retryLoop pos m rl h a inner fuel r') :=
  Failsafe.Lemmas.ExecBodiesLink.retryLoop_link pos m rl h a inner fuel r r1 res hi

/-- on the code's loop, for every instantiation of its operations: **an exhausted executor passes inner results through unprocessed,
and a cancelled execution returns the cancel result before anything else is looked at** -/
theorem kernel_loop_early_exits {σ : Type} (ops : LoopOps σ) (s : σ) :
    ((ops.isCanc (ops.innerS s)).1 = true → ExecBodies.retryIter ops s = (some (ops.isCanc (ops.innerS s)).2, ops.innerS s)) ∧
    ((ops.isCanc (ops.innerS s)).1 = false → ops.exceeded (ops.innerS s) = true →
        ExecBodies.retryIter ops s = (some (ops.innerV s), ops.innerS s)) := by
  constructor
  · intro h; simp [ExecBodies.retryIter, h]
  · intro h1 h2; simp [ExecBodies.retryIter, h1, h2]

/-- … and **it goes round again only after `InitializeRetry` agreed**: a `none` answer means the result was not final, was recorded, and
the next attempt was initialised -/
theorem kernel_loop_continues_only_after_init {σ : Type} (ops : LoopOps σ) (s s' : σ) (h : ExecBodies.retryIter ops s = (none, s')) :
    (ops.isCanc (ops.innerS s)).1 = false ∧ ops.exceeded (ops.innerS s) = false ∧
      (ops.postV (ops.innerS s) (ops.innerV s)).done = false := by
  simp only [ExecBodies.retryIter] at h
  by_cases h1 : (ops.isCanc (ops.innerS s)).1 = true
  · simp [h1] at h
  · by_cases h2 : ops.exceeded (ops.innerS s) = true
    · simp [h1, h2] at h
    · by_cases h3 : (ops.postV (ops.innerS s) (ops.innerV s)).done = true
      · simp [h1, h2, h3] at h
      · exact ⟨by simpa using h1, by simpa using h2, by simpa using h3⟩

example : (ExecBodies.retryOnFailure ⟨2, 0, false, some (), some ()⟩ ⟨2, false, []⟩ 0 false (fnResult 7 (some Err.full))).1 =
    failureResult (.exceededE 7 Err.full) := by decide

end kernel

end Failsafe.Props.C02
