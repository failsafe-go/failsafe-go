import Failsafe.Delay
/-!
# C13 — retry delays stay within their configured envelope

Exact (integer) statements are proved outright. Statements that involve a floating-point product carry the IEEE fact they
need as an explicit hypothesis about the *value produced* (`|addend| ≤ jitter`, `last ≤ scale last factor` …); the
differential slice checks those facts on the real executor's delays (through the `VerifDelaySequence` hook, magnitudes from
microseconds to hours) on every run.
-/
namespace Failsafe.Props.C13
open Failsafe.Delay

theorem getDelay_snd (c : Cfg) (last retries elapsed ranged addend factored : Int) :
    (getDelay c last retries elapsed ranged addend factored).2 =
      if c.delayFn ≠ -2 ∧ c.delayFn ≠ -1 then last else (fixedOrRandom c last retries ranged).2 :=
  apply_ite Prod.snd ..

theorem getDelay_fst (c : Cfg) (last retries elapsed ranged addend factored : Int) :
    ∃ d, (getDelay c last retries elapsed ranged addend factored).1 = adjustForMaxDuration c d elapsed :=
  ⟨_, rfl⟩

/-- every scheduled delay is non-negative -/
theorem delay_nonneg (c : Cfg) (last retries elapsed ranged addend factored : Int) :
    0 ≤ (getDelay c last retries elapsed ranged addend factored).1 := by
  exact Int.le_max_left 0 _

/-- a delay never extends past the remaining max duration -/
theorem clamped_by_max_duration (c : Cfg) (last retries elapsed ranged addend factored : Int) (hm : c.maxDuration ≠ 0) :
    (getDelay c last retries elapsed ranged addend factored).1 ≤ max 0 (c.maxDuration - elapsed) := by
  obtain ⟨d, h⟩ := getDelay_fst c last retries elapsed ranged addend factored
  rw [h, adjustForMaxDuration, if_pos hm]
  exact Int.max_le.2 ⟨Int.le_max_left _ _, Int.le_trans (Int.min_le_right _ _) (Int.le_max_right _ _)⟩

/-- the un-jittered backoff state never exceeds `maxDelay` once it is a backoff value, and is exactly `delay` otherwise -/
theorem backoff_le_maxDelay (c : Cfg) (last retries ranged : Int) (hd : c.delay ≠ 0) :
    (fixedOrRandom c last retries ranged).2 =
      (if last ≠ 0 ∧ retries ≥ 1 ∧ c.maxDelay ≠ 0 then min (scale last c.delayFactor) c.maxDelay else c.delay) ∧
    (last ≠ 0 ∧ retries ≥ 1 ∧ c.maxDelay ≠ 0 → (fixedOrRandom c last retries ranged).2 ≤ c.maxDelay) := by
  rw [fixedOrRandom, if_pos hd]
  refine ⟨rfl, fun h => ?_⟩
  rw [if_pos h]
  exact Int.min_le_right _ _

/-- **the k-th consecutive backoff delay is `min(scale^k(delay), maxDelay)`**: the state after `k` backoff steps -/
def backoffSeq (c : Cfg) : Nat → Int
  | 0 => c.delay
  | k + 1 => min (scale (backoffSeq c k) c.delayFactor) c.maxDelay

theorem backoff_sequence (c : Cfg) (hd : c.delay ≠ 0) (hmax : c.maxDelay ≠ 0) (hpos : ∀ k, backoffSeq c k ≠ 0) (ranged : Int) :
    ∀ k : Nat, (fixedOrRandom c (backoffSeq c k) (k + 1) ranged).1 = backoffSeq c (k + 1) := by
  intro k
  rw [fixedOrRandom, if_pos hd]
  exact if_pos ⟨hpos k, by omega, hmax⟩

/-- backoff never decreases — given the IEEE fact `last ≤ float32(last)·factor` truncated (true for `factor ≥ 1` up to
the rounding of `float32(last)`, which the differential check bounds) and while below `maxDelay` -/
theorem backoff_monotone (c : Cfg) (last : Int) (hscale : last ≤ scale last c.delayFactor) (hle : last ≤ c.maxDelay) :
    last ≤ min (scale last c.delayFactor) c.maxDelay := by
  exact Int.le_min.2 ⟨hscale, hle⟩

/-- fixed delay: with no backoff configured every delay is exactly `delay` (before jitter / clamp) -/
theorem fixed_exact (c : Cfg) (last retries ranged : Int) (hd : c.delay ≠ 0) (hmax : c.maxDelay = 0) :
    fixedOrRandom c last retries ranged = (c.delay, c.delay) := by
  rw [fixedOrRandom, if_pos hd, if_neg fun h => h.2.2 hmax]

/-- random delay: the value is the draw in `[delayMin, delayMax]` (envelope: hypothesis on the draw, checked differentially) -/
theorem random_in_range (c : Cfg) (last retries ranged : Int) (hd : c.delay = 0) (hmin : c.delayMin ≠ 0) (hmaxx : c.delayMax ≠ 0)
    (hr : c.delayMin ≤ ranged ∧ ranged ≤ c.delayMax) :
    c.delayMin ≤ (fixedOrRandom c last retries ranged).1 ∧ (fixedOrRandom c last retries ranged).1 ≤ c.delayMax ∧
    (fixedOrRandom c last retries ranged).2 = last := by
  rw [fixedOrRandom, if_neg (not_not_intro hd), if_pos ⟨hmin, hmaxx⟩]
  exact ⟨hr.1, hr.2, rfl⟩

/-- the delay function's value is used when it returns one (≠ -1), before jitter and clamp; the backoff state is untouched -/
theorem delayFn_used (c : Cfg) (last retries elapsed ranged addend factored : Int) (h2 : c.delayFn ≠ -2) (h1 : c.delayFn ≠ -1)
    (hj : c.jitter = 0) (hjf : (c.jitterFactor != 0) = false) (hm : c.maxDuration = 0) (hpos : 0 ≤ c.delayFn) :
    getDelay c last retries elapsed ranged addend factored = (c.delayFn, last) := by
  have hjit : ∀ d, adjustForJitter c d addend factored = d := fun d => by
    unfold adjustForJitter
    rw [if_neg (fun h => h hj), hjf]
    rfl
  unfold getDelay
  rw [if_pos ⟨h2, h1⟩]
  simp only [hjit, ite_self]
  rw [adjustForMaxDuration, if_neg (fun h => h hm), Int.max_eq_right hpos]

/-- absolute jitter shifts the delay by at most the configured jitter (given the draw's addend is within it) -/
theorem jitter_within (c : Cfg) (d addend factored : Int) (hj : c.jitter ≠ 0) (ha : -c.jitter ≤ addend ∧ addend ≤ c.jitter) :
    d - c.jitter ≤ adjustForJitter c d addend factored ∧ adjustForJitter c d addend factored ≤ d + c.jitter := by
  rw [adjustForJitter, if_pos hj]
  omega

/-- **jitter never accumulates into later backoff delays**: the backoff state after a step does not depend on the draws -/
theorem jitter_not_accumulated (c : Cfg) (last retries elapsed ranged : Int) (a1 a2 f1 f2 : Int) :
    (getDelay c last retries elapsed ranged a1 f1).2 = (getDelay c last retries elapsed ranged a2 f2).2 := by
  rw [getDelay_snd, getDelay_snd]

/-- the whole un-jittered sequence is a function of the configuration alone -/
def lastSeq (c : Cfg) (draws : Nat → Int × Int × Int) (elapsed : Nat → Int) : Nat → Int
  | 0 => 0
  | k + 1 => (getDelay c (lastSeq c draws elapsed k) k (elapsed k) (draws k).1 (draws k).2.1 (draws k).2.2).2

theorem lastSeq_independent_of_jitter (c : Cfg) (d1 d2 : Nat → Int × Int × Int) (e1 e2 : Nat → Int)
    (hr : ∀ k, (d1 k).1 = (d2 k).1) : ∀ k, lastSeq c d1 e1 k = lastSeq c d2 e2 k := by
  intro k
  induction k with
  | zero => rfl
  | succ n ih => simp only [lastSeq, getDelay_snd, ih, hr n]

/-! ## timed model: the next attempt never starts before the scheduled delay has elapsed

The retry loop arms `time.NewTimer(delay)` at instant `armed` and proceeds from the timer branch at `fire ≥ armed + delay`
(Go timers never fire early: trusted) or from the cancellation branch, after which `InitializeRetry` returns the cancel result
and no attempt is started (FACTS: `selects/retry.Apply`, body of `Apply`). -/
inductive Wake | timer (at_ : Int) | cancelled (at_ : Int)

def nextAttemptStart : Wake → Option Int
  | .timer t => some t
  | .cancelled _ => none

theorem attempt_not_before_delay (armed delay fire : Int) (hf : armed + delay ≤ fire) (w : Wake) (hw : w = .timer fire ∨ ∃ t, w = .cancelled t)
    (s : Int) (hs : nextAttemptStart w = some s) : armed + delay ≤ s := by
  rcases hw with rfl | ⟨t, rfl⟩
  · cases hs
    exact hf
  · cases hs

example : (getDelay { delay := 100, maxDelay := 1000, delayFactor := 2 } 0 0 0 0 0 0).2 = 100 := by
  simp [getDelay, fixedOrRandom]
example : (({ delay := 100, maxDelay := 1000 } : Cfg).delay ≠ 0) := by decide

end Failsafe.Props.C13
