import Failsafe.Conc.Timeout
import Failsafe.Conc.TraceTimeout
import Failsafe.Exec
/-!
# C07 — the timeout outcome is exclusive and consistent, and never early

For **every interleaving** of the timer callback with the function returning (the model's actions may be scheduled in any
order), for functions that return on their own and for functions that only return on cancellation.
-/
namespace Failsafe.Props.C07
open Failsafe.Conc Failsafe.Conc.Timeout

/-- what this file uses of a reachable state, as one predicate: it is decided on each candidate set once, together with the set's closure -/
def good (fnBlocks : Bool) (s : St) : Bool :=
  exclusive s && safe s && (s.timer == .armed || s.elapsed) && (!s.cancelled || s.elapsed) &&
  (!fnBlocks || s.main != .done || s.ret == .exceeded)

theorem reach_good (fnBlocks : Bool) : (closedB (sys fnBlocks) (reach fnBlocks) && (reach fnBlocks).all (good fnBlocks)) = true := by
  cases fnBlocks <;> decide +kernel

theorem reach_closed (fnBlocks : Bool) : closedB (sys fnBlocks) (reach fnBlocks) = true :=
  (Bool.and_eq_true_iff.1 (reach_good fnBlocks)).1

theorem reach_closed_false : closedB (sys false) (reach false) = true := reach_closed false
theorem reach_closed_true : closedB (sys true) (reach true) = true := reach_closed true

structure Good (fnBlocks : Bool) (s : St) : Prop where
  exclusive : exclusive s = true
  safe : safe s = true
  armed : s.timer = .armed ∨ s.elapsed = true
  cancelled : s.cancelled = false ∨ s.elapsed = true
  blocked : (fnBlocks = false ∨ s.main ≠ .done) ∨ s.ret = .exceeded

theorem good_of_reachable (fnBlocks : Bool) (s : St) (h : Reachable (sys fnBlocks) s) : Good fnBlocks s := by
  have hg := Bool.and_eq_true_iff.1 (reach_good fnBlocks)
  have := invariant_of_closed _ _ _ hg.1 hg.2 s h
  simp only [good, Bool.and_eq_true, Bool.or_eq_true, beq_iff_eq, Bool.not_eq_true', bne_iff_ne, ne_eq] at this
  obtain ⟨⟨⟨⟨h1, h2⟩, h3⟩, h4⟩, h5⟩ := this
  exact ⟨h1, h2, h3, h4, h5⟩

/-- **exclusive and consistent**: in every reachable state in which the call has returned and the timer side is quiet, either
the inner result was returned, the listener was never called and the execution is not cancelled by the Timeout; or
`ErrExceeded` was returned, the listener was called exactly once and the execution is cancelled -/
theorem timeout_exclusive (fnBlocks : Bool) (s : St) (h : Reachable (sys fnBlocks) s) : exclusive s = true :=
  (good_of_reachable fnBlocks s h).exclusive

/-- **safety at every instant** (not only at the end): at most one listener call, only together with the timeout result;
cancellation by the Timeout only after its listener; `ErrExceeded` never before the limit elapsed; an inner result never
together with a listener call -/
theorem timeout_safe (fnBlocks : Bool) (s : St) (h : Reachable (sys fnBlocks) s) : safe s = true :=
  (good_of_reachable fnBlocks s h).safe

/-- **never early** -/
theorem timeout_not_early (fnBlocks : Bool) (s : St) (h : Reachable (sys fnBlocks) s) (hr : s.ret = .exceeded) :
    s.elapsed = true := by
  have := timeout_safe fnBlocks s h
  simp only [safe, Bool.and_eq_true, Bool.or_eq_true, bne_iff_ne, ne_eq] at this
  -- the fifth clause of `safe`
  exact this.1.1.1.2.resolve_left fun hne => hne hr

/-- **a function that only returns on cancellation always ends in `ErrExceeded`** (whenever the call returns at all) -/
theorem blocked_fn_times_out (s : St) (h : Reachable (sys true) s) (hd : s.main = .done) : s.ret = .exceeded :=
  (good_of_reachable true s h).blocked.resolve_left (by simp [hd])

/-- the limit applies afresh to each attempt when a retry encloses the Timeout: every `Apply` call arms its own timer — in the
composition model each application of the timeout layer opens a new cancel scope (`Exec.applyPolicy … .timeout`) -/
theorem fresh_state_per_apply : (sys false).init.elapsed = false ∧ (sys false).init.timer = .armed ∧ (sys false).init.cell = .empty :=
  ⟨rfl, rfl, rfl⟩

/-- non-vacuity: both outcomes are reachable, and the race state (callback fired, function returned) as well -/
example : (reach false).any (fun s => s.main == .done && s.ret == .inner) = true :=
  any_explore_of_run _ 40 _ [.fnReturn, .mainCAS, .mainPost] (by decide) rfl rfl
example : (reach false).any (fun s => s.main == .done && s.ret == .exceeded && s.listener == 1) = true :=
  any_explore_of_run _ 40 _ [.tick, .fire, .cbCAS, .cbListener, .fnReturn, .mainCAS, .mainPost] (by decide) rfl rfl
example : (reach false).any (fun s => s.timer == .fired && s.main == .returned) = true :=
  any_explore_of_run _ 40 _ [.tick, .fire, .fnReturn] (by decide) rfl rfl
example : (reach false).length = 26 := by decide +kernel

/-! ## The Timeout layer inside a composition (`Exec.applyPolicy … .timeout`)

The interleaving model above is one application of a Timeout. In the composition model every application opens its own cancel
scope; these theorems are about an arbitrary inner layer, so they cover every placement of the Timeout. -/
section Composition
open Failsafe.Exec

/-- one application of the Timeout layer: the inner layer runs in a scope of its own; its result comes back as the timeout result if that
scope was cancelled and with value and error unchanged otherwise; its run state comes back with the enclosing scope put back -/
theorem timeout_layer {fuel pos : Nat} {inner : Layer} {r r' : Run} {res : PR}
    (h : applyPolicy fuel pos .timeout inner r = some (res, r')) :
    ∃ res0 r0, inner { r with inTimeout := true, cancelled := false, timeoutPos := pos } = some (res0, r0) ∧
      r' = { r0 with inTimeout := r.inTimeout, cancelled := r.cancelled, timeoutPos := r.timeoutPos, last := r.last } ∧
      ((r0.cancelled = true ∧ res = timeoutResult.withFailure) ∨
       (r0.cancelled = false ∧ res.val = res0.val ∧ res.err = res0.err)) := by
  simp only [applyPolicy] at h
  split at h
  · cases h
  · rename_i res0 r0 hin
    refine ⟨res0, r0, hin, ?_⟩
    split at h
    · rename_i hf; cases h; exact ⟨rfl, Or.inl ⟨hf, rfl⟩⟩
    · rename_i hf
      have hf' : r0.cancelled = false := by simpa using hf
      -- what is left to split is the `match` on the inner error and its test for `ErrExceeded`: every branch keeps value and error
      (repeat' (split at h)) <;> (cases h; exact ⟨rfl, Or.inr ⟨hf', rfl, rfl⟩⟩)

/-- the cancel scope of a Timeout is local to one application: whatever happened inside (also when it fired), afterwards the
enclosing scope's cancellation state and last outcome are what they were. With a retry policy around the Timeout the next
attempt therefore starts uncancelled: **the limit applies afresh to each attempt**. -/
theorem timeout_scope_local (fuel pos : Nat) (inner : Layer) (r r' : Run) (res : PR)
    (h : applyPolicy fuel pos .timeout inner r = some (res, r')) :
    r'.cancelled = r.cancelled ∧ r'.inTimeout = r.inTimeout ∧ r'.timeoutPos = r.timeoutPos ∧ r'.last = r.last := by
  obtain ⟨_, _, _, rfl, _⟩ := timeout_layer h
  exact ⟨rfl, rfl, rfl, rfl⟩

/-- **exclusive outcomes in the composition**: the application returns the timeout result exactly when its own scope was
cancelled, and otherwise the inner result's value and error unchanged -/
theorem timeout_outcome_cases (fuel pos : Nat) (inner : Layer) (r r' : Run) (res : PR)
    (h : applyPolicy fuel pos .timeout inner r = some (res, r')) :
    ∃ res0 r0, inner { r with inTimeout := true, cancelled := false, timeoutPos := pos } = some (res0, r0) ∧
      ((r0.cancelled = true ∧ res = timeoutResult.withFailure) ∨
       (r0.cancelled = false ∧ res.val = res0.val ∧ res.err = res0.err)) := by
  obtain ⟨res0, r0, hin, _, hres⟩ := timeout_layer h
  exact ⟨res0, r0, hin, hres⟩

/-- a cancellation from outside that is pending once a Timeout application has returned is reported with its own cause: an
earlier attempt's `ErrExceeded` is never what a later cancellation reports -/
theorem later_cancellation_reports_its_cause (fuel pos : Nat) (inner : Layer) (r r' : Run) (res : PR) (e : Err)
    (h : applyPolicy fuel pos .timeout inner r = some (res, r')) (hc : r.cancelled = false) (he : r'.ext = some e) :
    r'.isCanc = true ∧ r'.cancelRes = failureResult e := by
  have hl := (timeout_scope_local fuel pos inner r r' res h).1
  constructor
  · simp [Run.isCanc, he]
  · simp [Run.cancelRes, hl, hc, he]

/-- non-vacuity: an inner layer whose scope was cancelled (the Timeout fired): the application returns the timeout result and the
enclosing scope is uncancelled afterwards -/
example : ∃ res r', applyPolicy 0 3 .timeout (fun r => some (fnResult 7 none, { r with cancelled := true }))
    { w := {}, script := [] } = some (res, r') ∧ r'.cancelled = false ∧ res = timeoutResult.withFailure := ⟨_, _, rfl, rfl, rfl⟩

end Composition

/-! ## TRACE tie: recorded runs of the real Timeout are replayed through the model

`TraceTimeout.osys` is `Conc.Timeout` plus observation points (what user code can see). The acceptor `Trace.accepts` is exact
(`Trace.accepts_iff`): a recorded event list is accepted iff some interleaving of the model shows it. The theorems below say what
acceptance implies — they are the observable part of C07, proved for **every** accepted trace. -/
section trace
open Failsafe.Conc.TraceTimeout

/-- every model state an accepted trace can end in is a reachable state of `Conc.Timeout`: all theorems above apply to it -/
theorem accepted_states_reachable (fuel : Nat) (tr : List Ev) (Y : List St) (h : Trace.accepts osys fuel tr = some Y) (t : St) (ht : t ∈ Y) :
    Reachable (sys false) t :=
  reach_core t (Trace.accepted_state_reachable osys fuel tr Y h t ht)

/-- **the final sample of an accepted trace is one of the two legal outcomes**: inner result, no listener call, not cancelled — or
`ErrExceeded`, exactly one listener call, cancelled -/
theorem final_sample_exclusive (s : St) (hr : Trace.Reach osys s) (k : Nat) (c : Bool)
    (hst : TraceTimeout.step s .final = some s) (hsh : shows s .final (.final k c) = true) :
    (s.ret = .inner ∧ k = 0 ∧ c = false) ∨ (s.ret = .exceeded ∧ k = 1 ∧ c = true) := by
  obtain ⟨hq, _⟩ := Option.ite_none_right_eq_some.1 hst
  have hx := timeout_exclusive false s (reach_core s hr)
  simp only [shows, Bool.and_eq_true, beq_iff_eq] at hsh
  obtain ⟨rfl, rfl⟩ := hsh
  simpa [exclusive, hq.1, hq.2, and_assoc] using hx

/-- **never early, on traces**: a listener call or an `ErrExceeded` return stamped before the limit can have elapsed is shown by no
state of the model — a recorded run containing one is rejected -/
theorem early_listener_impossible (s s' : St) (hr : Trace.Reach osys s)
    (hst : TraceTimeout.step s (.core .cbListener) = some s') : shows s (.core .cbListener) (.listener true) = false := by
  obtain ⟨hw, _⟩ := Option.ite_none_right_eq_some.1 hst
  simp [shows, earlyOk, (good_of_reachable false s (reach_core s hr)).armed.resolve_left (by rw [hw]; decide)]

theorem early_exceeded_impossible (s : St) (hr : Trace.Reach osys s) :
    shows s .callerRet (.callerRet .exceeded true) = false := by
  have hreach := reach_core s hr
  by_cases h : s.ret = .exceeded
  · have := timeout_not_early false s hreach h
    simp [shows, earlyOk, this]
  · simp [shows, h]

/-- a cancellation the function observes before the limit elapsed is not the Timeout's doing: the model never shows it -/
theorem early_cancellation_impossible (s : St) (hr : Trace.Reach osys s) :
    shows s .seeCancelled (.seeCancelled true true) = false := by
  by_cases hc : s.cancelled = true
  · simp [shows, earlyOk, (good_of_reachable false s (reach_core s hr)).cancelled.resolve_left (by simp [hc])]
  · simp [shows, hc]

def isListenerEv : Ev → Bool | .listener _ => true | _ => false

/-- only the callback's listener step moves the listener counter -/
theorem listener_step {s s' : St} {a : Timeout.Act} (h : Timeout.step s a = some s') :
    s'.listener = s.listener + (if a = .cbListener then 1 else 0) := by
  cases a with
  | tick => obtain ⟨_, ⟨⟩⟩ := Option.ite_none_left_eq_some.1 h; rfl
  | mainCAS | cbCAS =>
    obtain ⟨_, h⟩ := Option.ite_none_right_eq_some.1 h
    split at h <;> cases h <;> rfl
  | _ => obtain ⟨_, ⟨⟩⟩ := Option.ite_none_right_eq_some.1 h; rfl

/-- the model's listener counter is the number of `listener` events shown: along any run -/
theorem listener_count_is_events (a b : St) (tr : List Ev) (h : Trace.Run osys a tr b) :
    b.listener = a.listener + (tr.filter isListenerEv).length := by
  rw [← List.countP_eq_length_filter]
  refine Trace.Run.count (·.listener) (· = .core .cbListener) isListenerEv (fun s x s' _ hst => ?_) (fun x hx => hx ▸ rfl)
    (fun s x e hsh => by rw [shows_act hsh]; cases e <;> simp [actOf, isListenerEv]) h
  rcases step_cases hst with ⟨c, rfl, hc⟩ | ⟨hx, rfl⟩
  · rw [listener_step hc]; simp
  · rw [if_neg (hx _)]; rfl

/-- **on traces**: in every trace the model can show — hence in every recorded run the acceptor accepts — that ends with the final
sample, the number of `OnTimeoutExceeded` calls *in the trace* is 0 when the inner result was returned and exactly 1 when
`ErrExceeded` was, and the sample agrees with it -/
theorem trace_listener_calls_match_outcome (tr : List Ev) (k : Nat) (c : Bool) (t : St)
    (h : Trace.Run osys osys.init (tr ++ [Ev.final k c]) t) :
    k = (tr.filter isListenerEv).length ∧ ((k = 0 ∧ c = false) ∨ (k = 1 ∧ c = true)) := by
  obtain ⟨s, s', x, hrun, _, _, hsh, hst, _⟩ := Trace.Run.observe tr h
  obtain rfl := shows_act hsh
  obtain ⟨_, ⟨⟩⟩ := Option.ite_none_right_eq_some.1 hst
  have hk : s.listener = k := by
    have h0 : shows s .final (.final k c) = true := hsh
    simp only [shows, Bool.and_eq_true, beq_iff_eq] at h0
    exact h0.1
  refine ⟨by rw [← hk, listener_count_is_events _ _ _ hrun]; exact Nat.zero_add _, ?_⟩
  exact (final_sample_exclusive s (Trace.Run.reach hrun Trace.Reach.init) k c hst hsh).imp And.right And.right

/-- non-vacuity: both outcomes are accepted, and the forbidden mixtures are rejected (decided by running the acceptor) -/
example : (Trace.accepts osys 20 [.fnRet true, .callerRet .inner true, .final 0 false]).map (·.isEmpty) = some false := by decide +kernel
example : (Trace.accepts osys 20 [.listener false, .seeCancelled true false, .fnRet false, .callerRet .exceeded false, .final 1 true]).map (·.isEmpty) = some false := by decide +kernel
example : (Trace.accepts osys 20 [.fnRet false, .listener false, .callerRet .inner false, .final 1 true]).map (·.isEmpty) = some true := by decide +kernel
example : (Trace.accepts osys 20 [.listener true, .fnRet false, .callerRet .exceeded false, .final 1 true]).map (·.isEmpty) = some true := by decide +kernel

end trace

end Failsafe.Props.C07
