import Failsafe.Lemmas.Layer
import Failsafe.Props.C16
/-!
# C01 — policies compose as nested wrappers, in declaration order

`executeStack` is the model of `executor.execute`'s composition loop (FACTS pins the loop: `for i := len-1 … 0`,
`ToExecutor` once per policy per execution, `outerFn = pe.Apply(outerFn)`). Three parts: the loop is the nesting and every layer hands
a finished result outwards; a layer depends on what is inside it only through value, error, verdict and run state (`Eqv`,
`applyPolicy_congr`); hence the semantics factors through a flag-free denotation (`Den`).
-/
namespace Failsafe.Props.C01
open Failsafe.Exec Failsafe.Classify

/-- the nesting `P1(P2(…Pn(fn)))` written as a right fold over the policy list with positions -/
def nestFrom (fuel : Nat) (pos : Nat) (ps : List Policy) : Layer :=
  (ps.zipIdx pos).foldr (fun pi inner => applyPolicy fuel pi.2 pi.1 inner) base

/-- **the composition loop is the nesting**, for every policy list (with repetition) -/
theorem execute_is_nesting (fuel : Nat) (ps : List Policy) : ∀ pos, executeStack fuel pos ps = nestFrom fuel pos ps := by
  induction ps with
  | nil => intro pos; rfl
  | cons p ps ih =>
    intro pos
    simp only [executeStack, nestFrom, List.zipIdx_cons, List.foldr_cons]
    rw [ih (pos + 1)]
    rfl

/-- every layer boundary returns a finished result (`Done = true`): what a layer hands to the layer outside is final -/
def DoneLayer (l : Layer) : Prop := ∀ r res r', l r = some (res, r') → res.done = true

theorem base_done : DoneLayer base := by
  intro r res r' h
  rcases base_cases h with ⟨_, rfl, _⟩ | ⟨_, _, _, rfl, _⟩ <;> rfl

abbrev Done := Answers fun res _ => res.done = true

theorem retry_done (pos : Nat) (m : Int) (rl : Bool) (h a : List Cond) (inner : Layer) (hi : DoneLayer inner) :
    ∀ fuel, DoneLayer (retryLoop pos m rl h a inner fuel) := by
  intro fuel
  induction fuel with
  | zero => intro r; exact Answers.none
  | succ n ih =>
    intro r
    show Done _
    rw [retryLoop_succ]
    exact .bind (hi r) fun _ _ h1 =>
      .ite (fun _ => .some (Run.cancelRes_done _)) fun _ =>     -- cancelled
      .ite (fun _ => .some h1) fun _ =>                         -- exhausted
      .ite (fun _ =>                                            -- a failure:
        .ite (fun hd => .some hd) fun _ =>                      --   final
        .ite (fun _ => .some (Run.cancelRes_done _)) fun _ =>   --   cancelled while waiting
        ih _)                                                   --   next round
      fun _ => .some rfl                                        -- a success

theorem hedge_done (pos n : Nat) (co : List Cond) (inner : Layer) (hi : DoneLayer inner) :
    ∀ fuel k d b, DoneLayer (hedgeLoop pos n co inner fuel k d b) := by
  intro fuel
  induction fuel with
  | zero => intro k d b r; exact Answers.none
  | succ f ih =>
    intro k d b r
    show Done _
    rw [hedgeLoop_succ]
    exact
      .ite (fun _ =>                                            -- the attempt blocks:
        .ite (fun _ => ih _ _ _ _) fun _ =>                     --   hedge further
        .ite (fun _ => .none) fun _ =>                          --   nothing will release it
        .some rfl)                                              --   the Timeout fires
      fun _ => .bind (hi _) fun _ _ h1 =>                       -- the attempt answers:
        .ite (fun _ => .some (Run.cancelRes_done _)) fun _ =>   --   cancelled
        .ite (fun _ => .some h1) fun _ =>                       --   accepted
        .ite (fun _ => ih _ _ _ _) fun _ =>                     --   hedge further
        .ite (fun _ => .some h1) fun _ =>                       --   the last one, none blocked
        .ite (fun _ => .none) fun _ =>                          --   nothing will release the blocked ones
        .some rfl                                               --   the Timeout fires

theorem applyPolicy_done (fuel pos : Nat) (p : Policy) (inner : Layer) (hi : DoneLayer inner) :
    DoneLayer (applyPolicy fuel pos p inner) := by
  intro r
  show Done _
  cases p with
  | retry m rl h a => exact retry_done pos m rl h a inner hi fuel r
  | hedge n co => exact .map (hedge_done pos n co inner hi _ _ _ _ r)
  | breaker id h =>
    dsimp only [applyPolicy]
    cases r.w.breakers[id]? with
    | none => exact .none
    | some cb => exact .ite (fun _ => .some rfl) fun _ => .bind (hi _) fun _ _ h1 => .ite (fun _ => .some h1) fun _ => .some rfl
  | bulkhead id =>
    dsimp only [applyPolicy]
    cases r.w.bulk[id]? with
    | none => exact .none
    | some ch => exact .ite (fun _ => .bind (hi _) fun _ _ h1 => .some h1) fun _ => .some rfl
  | limiter id =>
    dsimp only [applyPolicy]
    cases r.w.limiters[id]? with
    | none => exact .none
    | some cs => exact .ite (fun _ => hi _) fun _ => .some rfl
  | fallback k h =>
    exact .bind (hi _) fun _ _ _ => .ite (fun _ => .ite (fun _ => .some (Run.cancelRes_done _)) fun _ => .some rfl) fun _ => .some rfl
  | timeout =>
    exact .bind (hi _) fun _ _ h1 => .ite (fun _ => .some rfl) fun _ => .ite (fun _ => .some h1) fun _ => .some rfl
  | cache id key cif =>
    dsimp only [applyPolicy]
    split
    · exact .some rfl
    · exact .bind (hi _) fun _ _ h1 => .ite (fun _ => .some h1) fun _ => .some h1

/-- **every layer of every stack hands a finished result outwards** -/
theorem layer_done (fuel : Nat) (ps : List Policy) : ∀ pos, DoneLayer (executeStack fuel pos ps) := by
  induction ps with
  | nil => intro pos; exact base_done
  | cons p ps ih => intro pos; exact applyPolicy_done fuel pos p _ (ih (pos + 1))

/-- **the caller receives precisely the outermost layer's result and error**, and the completion listeners report the
verdict `SuccessAll` of that result -/
theorem caller_gets_outermost (fuel : Nat) (ps : List Policy) (r : Run) (res : PR) (r' : Run)
    (h : execute fuel ps r = some (res, r')) :
    ∃ r1, nestFrom fuel 0 ps r = some (res, r1) ∧ res.done = true ∧
      r'.log = r1.log ++ [⟨if res.successAll then "ex.onSuccess" else "ex.onFailure", 0, r1.attempts, r1.execs, some res.outcome⟩,
                          ⟨"ex.onDone", 0, r1.attempts, r1.execs, some res.outcome⟩] := by
  obtain ⟨r1, h1, hl⟩ := C16.one_done_one_verdict fuel ps r res r' h
  exact ⟨r1, by rw [← execute_is_nesting]; exact h1, layer_done fuel ps 0 r res r1 h1, hl⟩

/-- **the function is invoked only when every enclosing policy admits the attempt**: a rejecting layer returns its own
result whatever is inside it (the inner layer — every policy nested inside and the function — is never entered) -/
theorem rejecting_layer_ignores_inner (fuel pos : Nat) (inner inner' : Layer) (r : Run) :
    (∀ id h c b, r.w.breakers[id]? = some (c, b) → (Breaker.tryAcquire c b r.w.now).2 = false →
        applyPolicy fuel pos (.breaker id h) inner r = applyPolicy fuel pos (.breaker id h) inner' r) ∧
    (∀ id cap held, r.w.bulk[id]? = some (cap, held) → ¬ held < cap →
        applyPolicy fuel pos (.bulkhead id) inner r = applyPolicy fuel pos (.bulkhead id) inner' r) ∧
    (∀ id c s, r.w.limiters[id]? = some (c, s) → (limAcquire c s r.w.now).1 = false →
        applyPolicy fuel pos (.limiter id) inner r = applyPolicy fuel pos (.limiter id) inner' r) := by
  refine ⟨?_, ?_, ?_⟩
  · intro id h c b hb hrej
    simp only [applyPolicy, hb, hrej, Bool.not_false, if_true]
  · intro id cap held hb hfull
    simp only [applyPolicy, hb, hfull, if_false]
  · intro id c s hb hrej
    simp only [applyPolicy, hb, hrej, Bool.false_eq_true, if_false]

example : nestFrom 5 0 [] = base := rfl

/-! ## each policy handles only what the policy inside it returned

`Eqv`: two layer results agree on value, error, the overall verdict (`SuccessAll`) and the run state; the implementation's
`Done` / `Success` flags are ignored (they are plumbing, not behaviour). -/

def Eqv : Option (PR × Run) → Option (PR × Run) → Prop
  | none, none => True
  | some (p, r), some (q, s) => p.val = q.val ∧ p.err = q.err ∧ p.successAll = q.successAll ∧ r = s
  | _, _ => False

theorem Eqv.refl (a : Option (PR × Run)) : Eqv a a := by
  cases a with
  | none => trivial
  | some x => exact ⟨rfl, rfl, rfl, rfl⟩

def LEqv (l l' : Layer) : Prop := ∀ r, Eqv (l r) (l' r)

/-- what a layer may look at: the outcome and the verdict -/
theorem eqv_cases {a b : Option (PR × Run)} (h : Eqv a b) :
    (a = none ∧ b = none) ∨ ∃ p q r, a = some (p, r) ∧ b = some (q, r) ∧ p.val = q.val ∧ p.err = q.err ∧ p.successAll = q.successAll := by
  cases a with
  | none => cases b with
    | none => exact Or.inl ⟨rfl, rfl⟩
    | some y => cases h
  | some x => cases b with
    | none => obtain ⟨p, r⟩ := x; cases h
    | some y =>
      obtain ⟨p, r⟩ := x; obtain ⟨q, s⟩ := y
      obtain ⟨h1, h2, h3, h4⟩ := h
      subst h4
      exact Or.inr ⟨p, q, r, rfl, rfl, h1, h2, h3⟩

theorem Eqv.ite {c : Prop} [Decidable c] {a b a' b' : Option (PR × Run)} (h1 : c → Eqv a a') (h2 : ¬ c → Eqv b b') :
    Eqv (if c then a else b) (if c then a' else b') := by
  split
  · exact h1 ‹_›
  · exact h2 ‹_›

/-- two layers that run what is inside them and go on from its answer agree when what is inside agrees and the way they go on looks
at nothing but value, error and verdict -/
theorem Eqv.bind {o o' : Option (PR × Run)} {k k' : PR → Run → Option (PR × Run)} :
    Eqv o o' → (∀ p q r, p.val = q.val → p.err = q.err → p.successAll = q.successAll → Eqv (k p r) (k' q r)) →
      Eqv (match o with | .none => .none | .some (res, r) => k res r) (match o' with | .none => .none | .some (res, r) => k' res r) := by
  intro ho hk
  rcases eqv_cases ho with ⟨rfl, rfl⟩ | ⟨p, q, r, rfl, rfl, h1, h2, h3⟩
  · trivial
  · exact hk p q r h1 h2 h3

theorem retry_congr (pos : Nat) (m : Int) (rl : Bool) (hd a : List Cond) (inner inner' : Layer) (h : LEqv inner inner') :
    ∀ fuel, LEqv (retryLoop pos m rl hd a inner fuel) (retryLoop pos m rl hd a inner' fuel) := by
  intro fuel
  induction fuel with
  | zero => intro r; trivial
  | succ n ih =>
    intro r
    rw [retryLoop_succ, retryLoop_succ]
    refine Eqv.bind (h r) fun p q r1 h1 h2 h3 => ?_
    -- from the failure branch on, the two loops run on the same data
    simp only [outcome_eq h1 h2, retryOnFailure_congr pos m rl a r1 (p := p.withFailure) (q := q.withFailure) h1 h2]
    exact
      Eqv.ite (fun _ => Eqv.refl _) fun _ =>                    -- cancelled
      Eqv.ite (fun _ => ⟨h1, h2, h3, rfl⟩) fun _ =>             -- exhausted
      Eqv.ite (fun _ =>                                         -- a failure:
        Eqv.ite (fun _ => Eqv.refl _) fun _ =>                  --   final
        Eqv.ite (fun _ => Eqv.refl _) fun _ =>                  --   cancelled while waiting
        ih _)                                                   --   next round
      fun _ => ⟨h1, h2, by simp [PR.withDone, h3], rfl⟩         -- a success

theorem hedge_congr (pos n : Nat) (co : List Cond) (inner inner' : Layer) (h : LEqv inner inner') :
    ∀ fuel k d b, LEqv (hedgeLoop pos n co inner fuel k d b) (hedgeLoop pos n co inner' fuel k d b) := by
  intro fuel
  induction fuel with
  | zero => intro k d b r; trivial
  | succ f ih =>
    intro k d b r
    rw [hedgeLoop_succ, hedgeLoop_succ]
    refine
      Eqv.ite (fun _ =>                                         -- the attempt blocks:
        Eqv.ite (fun _ => ih _ _ _ _) fun _ =>                  --   hedge further
        Eqv.refl _)                                             --   or not: the same on both sides
      fun _ => Eqv.bind (h _) fun p q r1 h1 h2 h3 => ?_         -- the attempt answers:
    simp only [outcome_eq h1 h2]
    exact
      Eqv.ite (fun _ => Eqv.refl _) fun _ =>                    --   cancelled
      Eqv.ite (fun _ => ⟨h1, h2, h3, rfl⟩) fun _ =>             --   accepted
      Eqv.ite (fun _ => ih _ _ _ _) fun _ =>                    --   hedge further
      Eqv.ite (fun _ => ⟨h1, h2, h3, rfl⟩) fun _ =>             --   the last one, none blocked
      Eqv.refl _                                                --   or some are: the same on both sides

/-- **each policy handles only what the policy inside it returned**: value, error and verdict — never the plumbing flags -/
theorem applyPolicy_congr (fuel pos : Nat) (p : Policy) (inner inner' : Layer) (h : LEqv inner inner') :
    LEqv (applyPolicy fuel pos p inner) (applyPolicy fuel pos p inner') := by
  intro r
  cases p with
  | retry m rl hd a => exact retry_congr pos m rl hd a inner inner' h fuel r
  | hedge n co =>
    dsimp only [applyPolicy]
    rcases eqv_cases (hedge_congr pos n co inner inner' h (n + 2) 0 0 0 r) with ⟨ha, hb⟩ | ⟨p, q, r1, ha, hb, h1, h2, h3⟩
    · rw [ha, hb]; trivial
    · rw [ha, hb]; exact ⟨h1, h2, h3, rfl⟩
  | breaker id hd =>
    dsimp only [applyPolicy]
    split
    · trivial
    · refine Eqv.ite (fun _ => Eqv.refl _) fun _ => Eqv.bind (h _) fun p q r1 h1 h2 h3 => ?_
      simp only [outcome_eq h1 h2]
      exact Eqv.ite (fun _ => ⟨h1, h2, rfl, rfl⟩) fun _ => ⟨h1, h2, by simp [PR.withDone, h3], rfl⟩
  | bulkhead id =>
    dsimp only [applyPolicy]
    split
    · trivial
    · exact Eqv.ite (fun _ => Eqv.bind (h _) fun p q r1 h1 h2 h3 => ⟨h1, h2, h3, rfl⟩) fun _ => Eqv.refl _
  | limiter id =>
    dsimp only [applyPolicy]
    split
    · trivial
    · exact Eqv.ite (fun _ => h _) fun _ => Eqv.refl _
  | fallback k hd =>
    dsimp only [applyPolicy]
    refine Eqv.bind (h r) fun p q r1 h1 h2 h3 => ?_
    simp only [outcome_eq h1 h2]
    exact Eqv.ite (fun _ => Eqv.refl _) fun _ => ⟨h1, h2, by simp [PR.withDone, h3], rfl⟩
  | timeout =>
    dsimp only [applyPolicy]
    refine Eqv.bind (h _) fun p q r1 h1 h2 h3 => ?_
    simp only [h2]
    exact Eqv.ite (fun _ => Eqv.refl _) fun _ => Eqv.ite (fun _ => ⟨h1, h2, rfl, rfl⟩) fun _ => ⟨h1, h2, by simp [PR.withDone, h3], rfl⟩
  | cache id key cif =>
    dsimp only [applyPolicy]
    split
    · exact Eqv.refl _
    · refine Eqv.bind (h _) fun p q r1 h1 h2 h3 => ?_
      have hsc : shouldCache cif p = shouldCache cif q := by simp only [shouldCache, h2, outcome_eq h1 h2]
      simp only [hsc, h1]
      exact Eqv.ite (fun _ => ⟨h1, h2, h3, rfl⟩) fun _ => ⟨h1, h2, h3, rfl⟩

/-- the composition loop over an arbitrary innermost layer -/
def stackOver (fn : Layer) (fuel : Nat) : Nat → List Policy → Layer
  | _, [] => fn
  | pos, p :: ps => applyPolicy fuel pos p (stackOver fn fuel (pos + 1) ps)

theorem stackOver_base (fuel pos : Nat) (ps : List Policy) : stackOver base fuel pos ps = executeStack fuel pos ps := by
  induction ps generalizing pos with
  | nil => rfl
  | cons p ps ih => simp [stackOver, executeStack, ih]

/-- … for every policy list (with repetition) and position: replacing what is innermost by something that agrees with it on
(value, error, verdict, run state) changes nothing the whole stack does or returns -/
theorem stack_congr (fuel : Nat) (ps : List Policy) (pos : Nat) (fn fn' : Layer) (h : LEqv fn fn') :
    LEqv (stackOver fn fuel pos ps) (stackOver fn' fuel pos ps) := by
  induction ps generalizing pos with
  | nil => exact h
  | cons p ps ih => exact applyPolicy_congr fuel pos p _ _ (ih (pos + 1))

/-- in particular the plumbing flags the function's wrapper sets are irrelevant: any `Done` / `Success` values give the same
execution (value, error, verdict, invocations, statistics, events, world) -/
theorem flags_are_plumbing (fuel : Nat) (ps : List Policy) (d s : Bool) (r : Run) :
    Eqv (executeStack fuel 0 ps r)
        (stackOver (fun r => (base r).map (fun x => ({ x.1 with done := d, success := s }, x.2))) fuel 0 ps r) := by
  rw [← stackOver_base]
  apply stack_congr
  intro r
  show Eqv (base r) ((base r).map _)
  cases base r with
  | none => trivial
  | some x => exact ⟨rfl, rfl, rfl, rfl⟩

/-! ## A compositional, flag-free denotation

`stack_congr` says that layers only look at (value, error, verdict, run). Hence the semantics factors through the domain `Den`
of observable meanings: each policy has a meaning function `applyDen` on `Den`, and the meaning of a stack is the composition
of these functions — the denotational reading of "policies compose as nested wrappers". -/
/-- what an observer sees of a layer's result: value, error, verdict -/
abbrev Obs := Int × Option Err × Bool
abbrev Den := Run → Option (Obs × Run)

def erase (l : Layer) : Den := fun r => (l r).map (fun x => ((x.1.val, x.1.err, x.1.successAll), x.2))

/-- any representative of an observable meaning (the plumbing flags are set to arbitrary values) -/
def lift (d : Den) : Layer := fun r => (d r).map (fun y => (⟨y.1.1, y.1.2.1, true, y.1.2.2, y.1.2.2⟩, y.2))

theorem lift_erase (l : Layer) : LEqv l (lift (erase l)) := by
  intro r
  unfold lift erase
  cases l r with
  | none => trivial
  | some x => exact ⟨rfl, rfl, rfl, rfl⟩

theorem erase_congr {l l' : Layer} (h : LEqv l l') : erase l = erase l' := by
  funext r
  unfold erase
  rcases eqv_cases (h r) with ⟨ha, hb⟩ | ⟨p, q, r1, ha, hb, h1, h2, h3⟩
  · simp [ha, hb]
  · simp [ha, hb, h1, h2, h3]

/-- the flag-free meaning of a policy: a function from the meaning of what it wraps to the meaning of the wrapped whole -/
def applyDen (fuel pos : Nat) (p : Policy) (d : Den) : Den := erase (applyPolicy fuel pos p (lift d))

def denStack (d : Den) (fuel : Nat) : Nat → List Policy → Den
  | _, [] => d
  | pos, p :: ps => applyDen fuel pos p (denStack d fuel (pos + 1) ps)

/-- **compositional, flag-free denotation**: what a stack of policies means to an observer is obtained by applying each
policy's flag-free meaning function, outermost last, to the observable meaning of the wrapped function. The `Done` /
`Success` flags of `PolicyResult` never carry information from one layer to the next that is not in (value, error, verdict). -/
theorem den_compositional (fuel : Nat) (ps : List Policy) (pos : Nat) (fn : Layer) :
    erase (stackOver fn fuel pos ps) = denStack (erase fn) fuel pos ps := by
  induction ps generalizing pos with
  | nil => rfl
  | cons p ps ih =>
    show erase (applyPolicy fuel pos p (stackOver fn fuel (pos + 1) ps)) = applyDen fuel pos p (denStack (erase fn) fuel (pos + 1) ps)
    rw [← ih (pos + 1)]
    exact erase_congr (applyPolicy_congr fuel pos p _ _ (lift_erase _))

/-- for the executor: the observable meaning of `executeStack` is the denotation of the policy list over the function's meaning -/
theorem execute_denotation (fuel : Nat) (ps : List Policy) :
    erase (executeStack fuel 0 ps) = denStack (erase base) fuel 0 ps := by
  rw [← stackOver_base]; exact den_compositional fuel ps 0 base

/-- the representative chosen by `lift` does not matter: any values of the two plumbing flags give the same meaning function -/
theorem applyDen_any_flags (fuel pos : Nat) (p : Policy) (d : Den) (dn sc : Bool) :
    erase (applyPolicy fuel pos p (fun r => (d r).map (fun y => (⟨y.1.1, y.1.2.1, dn, sc, y.1.2.2⟩, y.2)))) = applyDen fuel pos p d := by
  apply erase_congr
  apply applyPolicy_congr
  intro r
  show Eqv ((d r).map _) ((d r).map _)
  cases d r with
  | none => trivial
  | some y => exact ⟨rfl, rfl, rfl, rfl⟩

end Failsafe.Props.C01
