import Failsafe.Exec
import Failsafe.Lemmas.ExecBodiesLink
/-!
# C10 — a fallback replaces exactly the failures it handles, once

Every theorem quantifies over an **arbitrary inner layer** (any composition of policies, any outcome it can return:
plain results, handled and unhandled errors, `ExceededError`, `ErrOpen`, `ErrFull`, rate-limit and timeout errors) and an
arbitrary run state. `pos` is the fallback's position in the stack, `fuel` is irrelevant for this policy. The last section states
the same on the regenerated body of the fallback executor's `Apply` (`kernel_*`) and links the model to it.
-/
namespace Failsafe.Props.C10
open Failsafe.Exec Failsafe.Classify

/-- what the fallback produces: its configured result or error -/
def fbOutcome : FbKind → Outcome
  | .value v => ⟨v, none⟩
  | .error e => ⟨0, some e⟩

/-- number of `fb.onFallbackExecuted` events of the fallback at `pos` in a log -/
def applications (pos : Nat) (log : List Event) : Nat :=
  (log.filter (fun e => e.name == "fb.onFallbackExecuted" && e.pos == pos)).length

/-- **applied iff handled failure and not cancelled; applied exactly once; its output replaces the result and is classified
by the same conditions; otherwise the inner result passes through** — the complete behaviour of the layer in one statement -/
theorem fallback_spec (fuel pos : Nat) (k : FbKind) (h : List Cond) (inner : Layer) (r : Run) :
    applyPolicy fuel pos (.fallback k h) inner r =
      match inner r with
      | none => none
      | some (res, r1) =>
        if isFailure h res.outcome then
          if r1.isCanc then some (r1.cancelRes, r1.emitSeen "fb.onFailure" pos (r1.seenBy res.outcome))
          else
            let ok := !isFailure h (fbOutcome k)
            some (⟨(fbOutcome k).val, (fbOutcome k).err, true, ok, ok⟩,
                  ((r1.emitSeen "fb.onFailure" pos (r1.seenBy res.outcome)).emitSeen "fb.fn" pos res.outcome).emit "fb.onFallbackExecuted" pos)
        else some (res.withDone true true, r1.emitSeen "fb.onSuccess" pos (r1.seenBy res.outcome)) := by
  rfl

/-- applied **iff** the inner outcome is a failure by the fallback's own conditions and the execution is not cancelled -/
theorem fallback_applied_iff (fuel pos : Nat) (k : FbKind) (h : List Cond) (inner : Layer) (r : Run)
    (res : PR) (r1 : Run) (hi : inner r = some (res, r1)) (res' : PR) (r' : Run)
    (ho : applyPolicy fuel pos (.fallback k h) inner r = some (res', r')) :
    (applications pos r'.log = applications pos r1.log + 1 ↔ (isFailure h res.outcome = true ∧ r1.isCanc = false)) ∧
    (¬ (isFailure h res.outcome = true ∧ r1.isCanc = false) → applications pos r'.log = applications pos r1.log) := by
  rw [fallback_spec, hi] at ho
  by_cases hf : isFailure h res.outcome = true
  · by_cases hcan : r1.isCanc = true
    · simp only [hf, hcan, if_true] at ho
      cases ho
      simp [applications, Run.emitSeen, hcan]
    · simp only [hf, hcan, if_true] at ho
      cases ho
      simp [applications, Run.emit, Run.emitSeen, hf, hcan]
  · simp only [hf] at ho
    cases ho
    simp [applications, Run.emitSeen, hf]

/-- the fallback's output replaces the result and is itself classified by the same conditions; the overall verdict is reset
to that classification -/
theorem fallback_output_reclassified (fuel pos : Nat) (k : FbKind) (h : List Cond) (inner : Layer) (r : Run)
    (res : PR) (r1 : Run) (hi : inner r = some (res, r1)) (hf : isFailure h res.outcome = true) (hc : r1.isCanc = false) :
    ∃ r', applyPolicy fuel pos (.fallback k h) inner r =
      some (⟨(fbOutcome k).val, (fbOutcome k).err, true, !isFailure h (fbOutcome k), !isFailure h (fbOutcome k)⟩, r') := by
  rw [fallback_spec, hi]
  simp [hf, hc]

/-- results the fallback does not handle pass through unchanged (value, error; verdict = the inner layers' verdict) -/
theorem unhandled_passthrough (fuel pos : Nat) (k : FbKind) (h : List Cond) (inner : Layer) (r : Run)
    (res : PR) (r1 : Run) (hi : inner r = some (res, r1)) (hf : isFailure h res.outcome = false) :
    ∃ r', applyPolicy fuel pos (.fallback k h) inner r = some (res.withDone true true, r') ∧
      (res.withDone true true).val = res.val ∧ (res.withDone true true).err = res.err ∧
      (res.withDone true true).successAll = res.successAll := by
  rw [fallback_spec, hi]
  simp [hf, PR.withDone]

/-- under cancellation the fallback's output is never produced: the cancellation result is returned -/
theorem no_fallback_output_under_cancel (fuel pos : Nat) (k : FbKind) (h : List Cond) (inner : Layer) (r : Run)
    (res : PR) (r1 : Run) (hi : inner r = some (res, r1)) (hf : isFailure h res.outcome = true) (hc : r1.isCanc = true) :
    ∃ r', applyPolicy fuel pos (.fallback k h) inner r = some (r1.cancelRes, r') ∧ applications pos r'.log = applications pos r1.log := by
  rw [fallback_spec, hi]
  simp [hf, hc, applications, Run.emitSeen]

/-- **the fallback function sees the failed result and error as the execution's last result**: the event of the fallback
function carries exactly the inner layer's outcome (including `ExceededError`, `ErrOpen`, `ErrFull`, rate-limit and timeout errors) -/
theorem fallback_sees_failed_outcome (fuel pos : Nat) (k : FbKind) (h : List Cond) (inner : Layer) (r : Run)
    (res : PR) (r1 : Run) (hi : inner r = some (res, r1)) (hf : isFailure h res.outcome = true) (hc : r1.isCanc = false)
    (res' : PR) (r' : Run) (ho : applyPolicy fuel pos (.fallback k h) inner r = some (res', r')) :
    (⟨"fb.fn", pos, r1.attempts, r1.execs, some res.outcome⟩ : Event) ∈ r'.log := by
  rw [fallback_spec, hi] at ho
  simp only [hf, hc, if_true, Bool.false_eq_true, if_false, Option.some.injEq, Prod.mk.injEq] at ho
  obtain ⟨_, rfl⟩ := ho
  simp [Run.emit, Run.emitSeen]

/-- the inner layer is entered exactly once and sees the run state unchanged: the fallback adds nothing before it -/
theorem fallback_calls_inner_once (fuel pos : Nat) (k : FbKind) (h : List Cond) (inner : Layer) (r : Run)
    (hd : inner r = none) : applyPolicy fuel pos (.fallback k h) inner r = none := by
  rw [fallback_spec, hd]

/-! non-vacuity: the hypotheses of the theorems above are satisfiable — an inner layer returning `ExceededError`, a fallback
handling `ErrExceeded`; and an inner layer returning an unhandled error -/
example : isFailure [.errIs Err.RETRYEXCEEDED] (failureResult (.exceededE 0 (.leaf 1 0))).outcome = true := by decide
example : isFailure [.errIs Err.RETRYEXCEEDED] (failureResult (.leaf 1 0)).outcome = false := by decide
example : isFailure [.errIs Err.RETRYEXCEEDED] (fbOutcome (.value 7)) = false := by decide

/-! ## On the regenerated body of the fallback executor's `Apply`

`ExecBodies.fallbackApply` is the reference definition the body regenerated from the source on every run is proved equal to
(`Tie/XFallback.lean`, `Tie/XBase.lean` for `PostExecute`); `fallback_link` shows that the model's fallback layer computes it. -/

/-- **the fallback function runs exactly for a failure the policy handles on an execution that is not cancelled, and once** -/
theorem kernel_fn_called_iff (inner : PR) (post : Unit → PR → PR) (canc : Bool → Bool × PR) (fo : Outcome) (ff : Bool) (oe : Option Unit) :
    let out := ExecBodies.fallbackApply {} inner post canc fo ff oe
    (out.2.log.count "fn" = if !(post () inner).success && !(canc false).1 then 1 else 0) ∧ out.2.log.count "fn" ≤ 1 := by
  rw [Failsafe.Lemmas.ExecBodiesLink.fallbackApply_new]
  cases (post () inner).success <;> cases (canc false).1 <;> cases (canc true).1 <;> cases oe <;> simp

/-- **its output replaces the failure and is re-classified by the policy's own conditions**; a success or an unhandled outcome
passes through as `PostExecute` returned it; under cancellation the cancel result is returned and the output discarded -/
theorem kernel_result (inner : PR) (post : Unit → PR → PR) (canc : Bool → Bool × PR) (fo : Outcome) (ff : Bool) (oe : Option Unit) :
    (ExecBodies.fallbackApply {} inner post canc fo ff oe).1 =
      if (post () inner).success then post () inner
      else if (canc false).1 then (canc false).2
      else if (canc true).1 then (canc true).2
      else ⟨fo.val, fo.err, true, !ff, !ff⟩ := by
  simp only [Failsafe.Lemmas.ExecBodiesLink.fallbackApply_new, apply_ite Prod.fst]

/-- `OnFallbackExecuted` fires exactly when the output is used -/
theorem kernel_event_iff (inner : PR) (post : Unit → PR → PR) (canc : Bool → Bool × PR) (fo : Outcome) (ff : Bool) :
    (ExecBodies.fallbackApply {} inner post canc fo ff (some ())).2.log.count "onFallbackExecuted" =
      if !(post () inner).success && !(canc false).1 && !(canc true).1 then 1 else 0 := by
  rw [Failsafe.Lemmas.ExecBodiesLink.fallbackApply_new]
  cases (post () inner).success <;> cases (canc false).1 <;> cases (canc true).1 <;> simp

/-- **the composition model's fallback layer is the code's** -/
theorem model_fallback_layer_is_the_codes (fuel pos : Nat) (k : FbKind) (h : List Cond) (inner : Layer) (r r1 : Run) (res : PR)
    (hin : inner r = some (res, r1)) :
    let fo : Outcome := match k with | .value v => ⟨v, none⟩ | .error e => ⟨0, some e⟩
    let r2 := if isFailure h res.outcome then r1.emitSeen "fb.onFailure" pos (r1.seenBy res.outcome)
              else r1.emitSeen "fb.onSuccess" pos (r1.seenBy res.outcome)
    let kk := ExecBodies.fallbackApply {} res (Failsafe.Lemmas.ExecBodiesLink.postOf h) (fun _ => (r2.isCanc, r2.cancelRes)) fo (isFailure h fo) (some ())
    ∃ r3, applyPolicy fuel pos (.fallback k h) inner r = some (kk.1, r3) ∧
      r3.log.map (·.name) = r2.log.map (·.name) ++ kk.2.log.map (fun n => if n = "fn" then "fb.fn" else "fb." ++ n) :=
  Failsafe.Lemmas.ExecBodiesLink.fallback_link fuel pos k h inner r r1 res hin

end Failsafe.Props.C10
