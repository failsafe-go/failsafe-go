import Failsafe.Conc.Lockset
import Failsafe.Conc.Linearize
import Failsafe.Generated.Facts
/-!
# C14 — shared policies and executors are safe for concurrent use

Three claims. (1) *No data race*: `lock_discipline_orders_accesses` (any number of threads, any trace) shows that accesses made
under a variable's mutex are ordered by happens-before; the access table extracted from the source on every run (FACTS
`accessTable`, compared with the committed expectation) classifies every access to every field of the shared structs as under
the struct's mutex, on an atomic / channel, to an immutable field, or unguarded — and the unguarded ones must be exactly the
justified list below. (2) *No deadlock*: `no_deadlock` for lock graphs without nested acquisition, which FACTS `callsUnderLock`
pins. (3) *Every property above holds for each individual execution*: that is what the interleaving theorems of C02, C04, C06,
C07, C08, C09 and C15 state; the stress runs evaluate their oracles under load.
-/
namespace Failsafe.Props.C14
open Failsafe.Conc.Lockset

/-- **(1) lock discipline ⇒ ordered accesses** (restated from `Conc/Lockset.lean` so that the axiom audit covers it) -/
theorem lock_discipline_orders_accesses (L : Nat → Nat) (o : Owners) (p q r : List Ev) (t u x : Nat) (w1 w2 : Bool) (htu : t ≠ u)
    (hv : Valid L o (p ++ [Ev.acc t x w1] ++ q ++ [Ev.acc u x w2] ++ r)) :
    ∃ q1 q2 q3, q = q1 ++ [Ev.rel t (L x)] ++ q2 ++ [Ev.acq u (L x)] ++ q3 :=
  Failsafe.Conc.Lockset.lock_discipline_orders_accesses L o p q r t u x w1 w2 htu hv

/-- in particular the two accesses are never adjacent, and the second thread cannot access `x` while the first still owns the lock -/
theorem no_unordered_pair (L : Nat → Nat) (o : Owners) (p r : List Ev) (t u x : Nat) (w1 w2 : Bool) (htu : t ≠ u) :
    ¬ Valid L o (p ++ [Ev.acc t x w1] ++ [] ++ [Ev.acc u x w2] ++ r) := by
  intro hv
  obtain ⟨q1, q2, q3, h⟩ := Failsafe.Conc.Lockset.lock_discipline_orders_accesses L o p [] r t u x w1 w2 htu hv
  have := congrArg List.length h
  simp at this

/-- The accesses of the shared structs (`execution`, `executionResult`, retry `executor`, `circuitBreaker`, `smoothStats`,
`burstyStats`, `bulkhead`) to *mutable* fields that neither the struct's mutex, an atomic nor a channel guards are exactly these:

* `circuitBreaker.state` in `Reset` — `Reset` is not part of the `CircuitBreaker` interface (it implements the test-only
  `internal/testutil.Resetable`); no concurrent use is documented or exercised;
* the `execution` getters `LastResult`, `LastError`, `AttemptStartTime`, `ElapsedAttemptTime` — they read per-copy fields. The
  writers (`RecordResult`, `InitializeRetry`, `Cancel`) hold `mtx`; user code only ever receives a copy made under `mtx`
  (`execute` copies for the function, listeners get `CopyWithResult`; FACTS `liveExecutionToUserCode`), and the library's own
  calls are the three sites of `getter_call_sites` below;
* the retry executor's `failedAttempts`, `retriesExceeded`, `lastDelay` — one executor per execution (FACTS `executeLoop`) whose
  loop runs on one goroutine at a time, **except** inside a hedge policy, whose attempt goroutines share it: open known finding
  D4 (witness replayed by the check on every run).

A new unguarded access, or a lock removed from a method, changes this list (or the table) and is a broken obligation. -/
theorem unguarded_accesses_are_the_justified_ones :
    Generated.Facts.unguardedAccesses =
      ["circuitBreaker.state Reset R",
       "execution.attemptStartTime AttemptStartTime R", "execution.attemptStartTime ElapsedAttemptTime R",
       "execution.lastError LastError R", "execution.lastResult LastResult R",
       "executor.failedAttempts OnFailure R", "executor.failedAttempts OnFailure W",
       "executor.lastDelay getFixedOrRandomDelay R", "executor.lastDelay getFixedOrRandomDelay W",
       "executor.retriesExceeded Apply R", "executor.retriesExceeded OnFailure R", "executor.retriesExceeded OnFailure W"] := rfl

/-- library call sites of the unlocked getters: the HTTP attempt function and `DelayFunc` receive copies (they sit in user-code
position); the rate limiter reads `LastError` only after receiving from `exec.Canceled()`, which the cancelling `Cancel` call
(which wrote the field under `mtx` before cancelling the context) happens-before -/
theorem getter_call_sites :
    Generated.Facts.unlockedGetterCallSites =
      ["failsafehttp/http.go:.doRequest exec.LastResult", "failsafehttp/policy.go:.DelayFunc exec.LastResult",
       "ratelimiter/ratelimiter.go:rateLimiter.acquirePermitsWithMaxWait exec.LastError"] := rfl

/-- user code never receives the live execution: the only syntactic hit is the breaker's delay function, whose argument is the
copy its caller made (`recordFailure(exec.CopyWithResult(result))`, body fact of the breaker executor's `OnFailure`) -/
theorem live_execution_never_escapes :
    Generated.Facts.liveExecutionToUserCode = ["circuitbreaker/circuitbreaker.go:circuitBreaker.transitionTo cb.ComputeDelay"] := rfl

/-- **(2) lock graph**: the only things that run while one of the library's mutexes is held are the breaker's state-change
listeners (user code; modelling assumption: a listener does not call back into the breaker that invoked it — the event
carries the metrics so that it need not). No library code acquires a second mutex while holding one. -/
theorem calls_under_lock_are_the_listeners :
    Generated.Facts.callsUnderLock = ["circuitBreaker.transitionTo: cb.stateChangedListener", "circuitBreaker.transitionTo: listener"] := rfl

theorem no_deadlock (o : Owners) (w : Waiting) (h : NoNesting o w) (t m : Nat) (hw : w t = some m) :
    o m = none ∨ ∃ u, o m = some u ∧ w u = none :=
  Failsafe.Conc.Lockset.no_deadlock o w h t m hw

/-- **the linearizability verdict of the correspondence check is exact**: the search the driver runs over a recorded concurrent
history (`Conc/Linearize.lean`) returns no state iff no order of the operations exists that respects real time and reproduces
every observed result on the sequential model — so a reported history is never an artefact of the search, and an accepted one
really has a linearization -/
theorem linearizability_verdict_exact {σ : Type} (step : σ → String → σ × String) (m : σ) (ops : List Failsafe.Conc.Linearize.HOp) :
    Failsafe.Conc.Linearize.linearize step (ops.length + 1) m ops = [] ↔ ¬ ∃ m', Failsafe.Conc.Linearize.IsLin step m ops m' :=
  Failsafe.Conc.Linearize.not_linearizable_iff step m ops

/-! ## non-vacuity: a valid two-thread trace with the ordering chain, and an invalid one -/

example : Valid (fun _ => 0) (fun _ => none)
    [.acq 1 0, .acc 1 7 true, .rel 1 0, .acq 2 0, .acc 2 7 false, .rel 2 0] := by
  simp [Valid, ok, apply]

example : ¬ Valid (fun _ => 0) (fun _ => none) [.acq 1 0, .acc 1 7 true, .acc 2 7 false] := by
  simp [Valid, ok, apply]

end Failsafe.Props.C14
