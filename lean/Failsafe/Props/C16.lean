import Failsafe.Lemmas.Layer
import Failsafe.Props.C03
/-!
# C16 — events are emitted exactly once per occurrence and tell a consistent story

The event log is a field of the run state; every listener call of every executor is an `emit` whose placement (which
listener, under which guard, before/after which effect) is pinned by FACTS and validated by the differential check, which
records **every** listener the builders expose into one ordered log per execution.

Reading: "at most once" for `OnAbort` / `OnRetriesExceeded` is per entry of the retry layer (an outer retry that re-enters an
inner retry starts a new occurrence; an exhausted inner executor stays silent, see `C02.retry_exhausted_passthrough`).
-/
namespace Failsafe.Props.C16
open Failsafe.Exec Failsafe.Classify

def count (name : String) (pos : Nat) (log : List Event) : Nat :=
  (log.filter (fun e => e.name == name && e.pos == pos)).length

theorem count_append (name : String) (pos : Nat) (a b : List Event) :
    count name pos (a ++ b) = count name pos a + count name pos b := by
  simp [count]

theorem count_snoc (name : String) (pos : Nat) (l : List Event) (e : Event) :
    count name pos (l ++ [e]) = count name pos l + (if e.name == name && e.pos == pos then 1 else 0) := by
  rw [count_append]
  congr 1
  simp only [count, List.filter_cons, List.filter_nil]
  split <;> simp

theorem count_emit (name : String) (pos : Nat) (r : Run) (n : String) (p : Nat) :
    count name pos (r.emit n p).log = count name pos r.log + (if n == name && p == pos then 1 else 0) :=
  count_snoc ..

theorem count_emitSeen (name : String) (pos : Nat) (r : Run) (n : String) (p : Nat) (o : Outcome) :
    count name pos (r.emitSeen n p o).log = count name pos r.log + (if n == name && p == pos then 1 else 0) :=
  count_snoc ..

theorem count_emitLast (name : String) (pos : Nat) (r : Run) (n : String) (p : Nat) :
    count name pos (r.emitLast n p).log = count name pos r.log + (if n == name && p == pos then 1 else 0) :=
  count_emitSeen name pos r n p r.last

/-- **the executor's own events**: every execution ends with exactly one verdict event, matching the returned result's
`SuccessAll`, followed by exactly one `OnDone` — and nothing after; both carry exactly the result and the error the caller receives -/
theorem one_done_one_verdict (fuel : Nat) (ps : List Policy) (r : Run) (res : PR) (r' : Run)
    (h : execute fuel ps r = some (res, r')) :
    ∃ r1, executeStack fuel 0 ps r = some (res, r1) ∧
      r'.log = r1.log ++ [⟨if res.successAll then "ex.onSuccess" else "ex.onFailure", 0, r1.attempts, r1.execs, some res.outcome⟩,
                          ⟨"ex.onDone", 0, r1.attempts, r1.execs, some res.outcome⟩] := by
  revert res r'
  show Answers _ _
  unfold execute
  exact .bind (.self _) fun res r1 hin => .some ⟨r1, hin, by split <;> simp [Run.emitSeen]⟩

/-- **per handled failure, the retry policy's events**: `OnFailure` always; `OnAbort` iff the failure matches an abort
condition; `OnRetriesExceeded` iff the budget is exhausted and it is not an abort; never both -/
theorem retry_onFailure_events (pos : Nat) (m : Int) (rl : Bool) (a : List Cond) (res1 : PR) (r : Run) :
    let exc : Bool := decide (m ≠ -1 ∧ ((getFailed r pos + 1 : Nat) : Int) > m) || durExceeded pos r
    let ab := isAbortable a res1.outcome
    (retryOnFailure pos m rl a res1 r).2.log =
      r.log ++ [⟨"rp.onFailure", pos, r.attempts, r.execs, some res1.outcome⟩]
        ++ (if ab then [⟨"rp.onAbort", pos, r.attempts, r.execs, some res1.outcome⟩] else [])
        ++ (if exc && !ab then [⟨"rp.onRetriesExceeded", pos, r.attempts, r.execs, some res1.outcome⟩] else []) := by
  rw [retryOnFailure_snd]

/-- `OnFailure` emits nothing but its own three events -/
theorem count_retryOnFailure {name : String} (h : name ∉ ["rp.onFailure", "rp.onAbort", "rp.onRetriesExceeded"])
    (p pos : Nat) (m : Int) (rl : Bool) (a : List Cond) (res : PR) (r : Run) :
    count name p (retryOnFailure pos m rl a res r).2.log = count name p r.log := by
  rw [retryOnFailure_snd]
  simp only [List.mem_cons, List.not_mem_nil, or_false, not_or] at h
  simp [count, apply_ite (List.filter _), Ne.symm h.1, Ne.symm h.2.1, Ne.symm h.2.2]

theorem count_retryScheduled (name : String) (p pos : Nat) (x : PR × Run) :
    count name p (retryScheduled pos x).log = count name p x.2.log + (if "rp.onRetryScheduled" == name && pos == p then 1 else 0) := by
  unfold retryScheduled; rw [Run.trigger_log, count_emitLast]

theorem count_retryNext (name : String) (p pos : Nat) (r : Run) :
    count name p (retryNext pos r).log = count name p r.log + (if "rp.onRetry" == name && pos == p then 1 else 0) := by
  unfold retryNext; rw [count_emitLast]

/-- a run of the retry loop starts `k` retries and schedules `k` — or `k + 1`, when it is left because the execution was cancelled
during the last one's delay; for any inner layer that does not emit this policy's events -/
theorem retryLoop_counts (pos : Nat) (m : Int) (rl : Bool) (h a : List Cond) (inner : Layer)
    (hin : ∀ r res r1, inner r = some (res, r1) →
      count "rp.onRetryScheduled" pos r1.log = count "rp.onRetryScheduled" pos r.log ∧
      count "rp.onRetry" pos r1.log = count "rp.onRetry" pos r.log) :
    ∀ fuel r, Answers (fun _ r' => ∃ k, count "rp.onRetry" pos r'.log = count "rp.onRetry" pos r.log + k ∧
      (count "rp.onRetryScheduled" pos r'.log = count "rp.onRetryScheduled" pos r.log + k ∨
       (count "rp.onRetryScheduled" pos r'.log = count "rp.onRetryScheduled" pos r.log + k + 1 ∧ r'.isCanc = true)))
      (retryLoop pos m rl h a inner fuel r) := by
  intro fuel
  induction fuel with
  | zero => intro r; exact .none
  | succ n ih =>
    intro r
    rw [retryLoop_succ]
    refine .bind (hin r) fun res1 r1 ⟨h1, h2⟩ => ?_
    -- but for a failure nothing is scheduled or started
    refine
      .ite (fun _ => .some ⟨0, h2, .inl h1⟩) fun _ =>           -- cancelled
      .ite (fun _ => .some ⟨0, h2, .inl h1⟩) fun _ =>           -- exhausted
      .ite (fun _ => ?_)                                        -- a failure: below
      fun _ => .some ⟨0, by simpa [count_emitSeen] using h2, .inl (by simpa [count_emitSeen] using h1)⟩   -- a success
    -- `OnFailure` emits neither event, scheduling the one, starting the other
    have hFr := (count_retryOnFailure (name := "rp.onRetry") (by decide) pos pos m rl a res1.withFailure r1).trans h2
    have hFs := (count_retryOnFailure (name := "rp.onRetryScheduled") (by decide) pos pos m rl a res1.withFailure r1).trans h1
    generalize retryOnFailure pos m rl a res1.withFailure r1 = x at hFr hFs ⊢
    have hSr : count "rp.onRetry" pos (retryScheduled pos x).log = count "rp.onRetry" pos r.log := by
      simp [count_retryScheduled, hFr]
    have hSs : count "rp.onRetryScheduled" pos (retryScheduled pos x).log = count "rp.onRetryScheduled" pos r.log + 1 := by
      simp [count_retryScheduled, hFs]
    have hNr : count "rp.onRetry" pos (retryNext pos (retryScheduled pos x)).log = count "rp.onRetry" pos r.log + 1 := by
      simp [count_retryNext, hSr]
    have hNs : count "rp.onRetryScheduled" pos (retryNext pos (retryScheduled pos x)).log = count "rp.onRetryScheduled" pos r.log + 1 := by
      simp [count_retryNext, hSs]
    refine
      .ite (fun _ => .some ⟨0, hFr, .inl hFs⟩) fun _ =>         -- final
      .ite (fun hc => .some ⟨0, hSr, .inr ⟨hSs, hc⟩⟩)           -- cancelled while waiting
      fun _ _ _ hh => ?_                                        -- next round
    obtain ⟨k, hr, hs⟩ := ih _ _ _ hh
    rcases hs with hs | ⟨hs, hc⟩
    · exact ⟨k + 1, by omega, .inl (by omega)⟩
    · exact ⟨k + 1, by omega, .inr ⟨by omega, hc⟩⟩

/-- **`OnRetryScheduled` once per retry decided, `OnRetry` once per retry started**: every scheduled retry is started — the two
counts grow together — except that a retry scheduled when the execution is cancelled during its delay is never started (then,
and only then, one more was scheduled than started, and the loop has returned with the execution cancelled); for any inner layer
that does not emit this policy's events -/
theorem retry_scheduled_eq_started (pos : Nat) (m : Int) (rl : Bool) (h a : List Cond) (inner : Layer)
    (hin : ∀ r res r1, inner r = some (res, r1) →
      count "rp.onRetryScheduled" pos r1.log = count "rp.onRetryScheduled" pos r.log ∧
      count "rp.onRetry" pos r1.log = count "rp.onRetry" pos r.log) :
    ∀ fuel r res r', retryLoop pos m rl h a inner fuel r = some (res, r') →
      (count "rp.onRetryScheduled" pos r'.log - count "rp.onRetryScheduled" pos r.log =
         count "rp.onRetry" pos r'.log - count "rp.onRetry" pos r.log ∨
       (count "rp.onRetryScheduled" pos r'.log - count "rp.onRetryScheduled" pos r.log =
         count "rp.onRetry" pos r'.log - count "rp.onRetry" pos r.log + 1 ∧ r'.isCanc = true)) ∧
      count "rp.onRetryScheduled" pos r.log ≤ count "rp.onRetryScheduled" pos r'.log ∧
      count "rp.onRetry" pos r.log ≤ count "rp.onRetry" pos r'.log := by
  intro fuel r res r' hh
  obtain ⟨k, hr, hs | ⟨hs, hc⟩⟩ := retryLoop_counts pos m rl h a inner hin fuel r res r' hh
  · exact ⟨.inl (by omega), by omega, by omega⟩
  · exact ⟨.inr ⟨by omega, hc⟩, by omega, by omega⟩

/-- **rejection events**: `OnFull` fires exactly when the bulkhead refuses (and then nothing inside runs) -/
theorem bulkhead_onFull_iff (fuel pos id : Nat) (inner : Layer) (r : Run) (cap held : Nat) (hb : r.w.bulk[id]? = some (cap, held)) :
    (¬ held < cap → applyPolicy fuel pos (.bulkhead id) inner r = some (failureResult Err.full, r.emit "bh.onFull" pos)) ∧
    (held < cap → ∀ res r', applyPolicy fuel pos (.bulkhead id) inner r = some (res, r') →
        ∃ r1, inner { r with w := { r.w with bulk := r.w.bulk.set id (cap, held + 1) } } = some (res, r1) ∧ r'.log = r1.log) := by
  constructor
  · intro hfull
    simp only [applyPolicy, hb, hfull, if_false]
  · intro hfree
    show Answers _ _
    simp only [applyPolicy, hb, hfree, if_true]
    exact .bind (.self _) fun _ r1 hin => .some ⟨r1, hin, rfl⟩

/-- `OnRateLimitExceeded` fires exactly when the limiter refuses (and then nothing inside runs) -/
theorem limiter_event_iff (fuel pos id : Nat) (inner : Layer) (r : Run) (c : LimCfg) (s : LimSt)
    (hb : r.w.limiters[id]? = some (c, s)) :
    let r0 : Run := { r with w := { r.w with limiters := r.w.limiters.set id (c, (limAcquire c s r.w.now).2) } }
    applyPolicy fuel pos (.limiter id) inner r =
      if (limAcquire c s r.w.now).1 then inner r0
      else some (failureResult Err.rate, r0.emit "rl.onRateLimitExceeded" pos) := by
  simp only [applyPolicy, hb]

/-- breaker state-change events form a connected path from the initial state with the metrics of the state left: C03 -/
theorem breaker_events_connected (c : Breaker.Cfg) (t0 : Int) (ops : List C03.Op) :
    C03.EvInv (ops.foldl (C03.apply c) (Breaker.B.new c, t0)).1 := C03.events_connected_path c t0 ops

example : count "ex.onDone" 0 [⟨"ex.onSuccess", 0, 1, 1, none⟩, ⟨"ex.onDone", 0, 1, 1, none⟩] = 1 := by decide

end Failsafe.Props.C16
