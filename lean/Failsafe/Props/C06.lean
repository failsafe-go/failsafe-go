import Failsafe.Conc.Bulkhead
/-!
# C06 — the bulkhead never exceeds its concurrency limit and never loses permits

For every number of executions, every schedule (list of actions) and every mix of outcomes, cancellations and timeouts while
waiting for or holding a permit. The sequential behaviour inside policy stacks is covered by the composition model (C01).
-/
namespace Failsafe.Props.C06
open Failsafe.Conc.Bulkhead

/-- reachable states: any schedule from an initial state with all threads idle and no permit taken -/
def init (cap n : Nat) : St := ⟨cap, 0, 0, List.replicate n .idle⟩

theorem init_inv (cap n : Nat) : Failsafe.Conc.Bulkhead.Inv (init cap n) := by
  simp [Failsafe.Conc.Bulkhead.Inv, init, holders, List.count_replicate]

/-- **at no instant are more than `maxConcurrency` executions in progress, standalone permits included**, for every schedule
and any number of threads -/
theorem inflight_le_cap (cap n : Nat) (as : List Act) (s' : St)
    (h : as.foldlM (m := Option) step (init cap n) = some s') :
    holders s'.ths + s'.ext ≤ s'.cap ∧ s'.held = holders s'.ths + s'.ext := by
  have := inv_run (init cap n) as (init_inv cap n) s' h
  exact ⟨by rw [← this.1]; exact this.2, this.1⟩

/-- **every admitted execution returns its permit exactly once**: `finish` is only enabled while holding, and it leaves the
thread in a terminal state in which nothing is enabled for it any more -/
theorem release_exactly_once (s s' : St) (i : Nat) (h : step s (.finish i) = some s') :
    s.ths[i]? = some .holding ∧ s'.held = s.held - 1 ∧ step s' (.finish i) = none := by
  simp only [step, Option.ite_none_right_eq_some, Option.some.injEq] at h
  obtain ⟨hi, rfl⟩ := h
  exact ⟨hi, rfl, by simp [step, Failsafe.Conc.getElem?_set_of_some hi]⟩

/-- **executions that were refused or cancelled while waiting never return a permit they did not get** -/
theorem refused_never_release (s : St) (i : Nat) (h : s.ths[i]? = some .doneFull ∨ s.ths[i]? = some .doneCanceled ∨ s.ths[i]? = some .waiting ∨ s.ths[i]? = some .idle) :
    step s (.finish i) = none := by
  simp only [step]
  rcases h with h | h | h | h <;> simp [h]

/-- **after all executions finish exactly `maxConcurrency` permits are available again** (minus those still held through
the standalone API) -/
theorem quiescent_all_free (cap n : Nat) (as : List Act) (s' : St)
    (h : as.foldlM (m := Option) step (init cap n) = some s') (hq : holders s'.ths = 0) :
    s'.held = s'.ext := by
  have := inflight_le_cap cap n as s' h
  omega

theorem cap_const (s s' : St) (a : Act) (h : step s a = some s') : s'.cap = s.cap := by
  -- no action writes `cap`
  cases a <;> simp only [step, Option.ite_none_right_eq_some, Option.some.injEq] at h
  case tryFast =>
    obtain ⟨-, h⟩ := h
    split at h <;> cases h <;> rfl
  all_goals
    obtain ⟨-, rfl⟩ := h
    rfl

example : Failsafe.Conc.Bulkhead.Inv (init 2 5) := init_inv 2 5
example : (([Act.tryFast 0, .tryFast 1, .tryFast 2, .finish 0, .acquireSlow 2] : List Act).foldlM (m := Option) step (init 2 3)).map (·.held) = some 2 := by
  decide

end Failsafe.Props.C06
