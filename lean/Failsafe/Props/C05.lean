import Failsafe.Limiter
import Failsafe.Lemmas.Bursty
import Failsafe.Lemmas.BurstyBridge
import Failsafe.Lemmas.Smooth
/-!
# C05 — rate limiter never admits faster than configured; refusals cost nothing

All statements are about `Failsafe.Limiter.smoothAcquire` / `burstyAcquire`, which `Failsafe.Tie.Limiter` proves equal
to the kernels regenerated from `/repo`. Instants are non-negative (a stopwatch), `interval`, `period`, `pp` positive.
A permit "becomes usable" at the request instant plus the returned wait; the `i`-th permit of a `k`-permit request is the
`i`-th of `k` single requests at the same instant (`*_k_eq_singles`).
-/
namespace Failsafe.Props.C05
open Failsafe.Limiter

/-- a request: instant, permits, max wait (-1 = none) -/
structure Req where
  t  : Int
  k  : Nat
  mw : Int
deriving Repr

/-! ## Smooth: refinement to a slot counter -/

/-- abstract spec: `n` is the next free slot. A request takes slots `first … first+k-1`, `first = max(⌊t/I⌋, n)`. -/
def slotStep (I n : Int) (r : Req) : Option (Int × Int) × Int :=
  let f := max (r.t / I) n
  let w := max (I * (f + r.k - 1) - r.t) 0
  if r.mw ≠ -1 ∧ w > r.mw then (none, n) else (some (f, w), f + r.k)

/-- outputs of the spec over a history: per request `none` (refused) or `(first slot, wait)` -/
def slotRun (I : Int) : Int → List Req → List (Option (Int × Int))
  | _, [] => []
  | n, r :: rs => (slotStep I n r).1 :: slotRun I (slotStep I n r).2 rs

/-- outputs of the implementation model over a history: per request the returned wait (-1 = refused) -/
def smoothRun (c : SCfg) : SSt → List Req → List Int
  | _, [] => []
  | s, r :: rs => (smoothAcquire c s r.t r.k r.mw).1 :: smoothRun c (smoothAcquire c s r.t r.k r.mw).2 rs

/-- one step of the simulation `n ↦ ⟨I * n⟩`: answer and new state of the limiter are those of the slot counter -/
theorem smooth_step_refines (c : SCfg) (hI : 0 < c.interval) (n : Int) (r : Req) (ht : 0 ≤ r.t) :
    smoothAcquire c ⟨c.interval * n⟩ r.t r.k r.mw =
      (match (slotStep c.interval n r).1 with | none => -1 | some fw => fw.2,
       ⟨c.interval * (slotStep c.interval n r).2⟩) := by
  rw [Sm.smoothAcquire_eq c _ r.t r.k r.mw ht, Sm.acquire_maxwait, Sm.acquire_closed c.interval hI _ n rfl]
  -- both sides branch on the same condition
  by_cases hc : r.mw ≠ -1 ∧ max (c.interval * (Sm.firstSlot c.interval n r.t + r.k - 1) - r.t) 0 > r.mw
  · rw [show slotStep c.interval n r = _ from if_pos hc]; exact if_pos hc
  · rw [show slotStep c.interval n r = _ from if_neg hc]; exact if_neg hc

/-- **refinement**: for every history the smooth limiter returns exactly the slot counter's answers -/
theorem smooth_refines_slots (c : SCfg) (hI : 0 < c.interval) :
    ∀ (rs : List Req) (s : SSt) (n : Int), s.next = c.interval * n → (∀ r ∈ rs, 0 ≤ r.t ∧ 1 ≤ r.k) →
      smoothRun c s rs = (slotRun c.interval n rs).map (fun o => match o with | none => -1 | some fw => fw.2) := by
  intro rs
  induction rs with
  | nil => intro _ _ _ _; rfl
  | cons r rs ih =>
    intro s n hn hall
    obtain rfl : s = ⟨c.interval * n⟩ := congrArg SSt.mk hn
    rw [smoothRun, smooth_step_refines c hI n r (hall r List.mem_cons_self).1]
    exact congrArg _ (ih _ _ rfl fun r' hr' => hall r' (List.mem_cons_of_mem _ hr'))

/-- granted slot ranges `(first, k)` of a spec history -/
def grantedRanges (I : Int) : Int → List Req → List (Int × Int)
  | _, [] => []
  | n, r :: rs =>
    match (slotStep I n r).1 with
    | none => grantedRanges I (slotStep I n r).2 rs
    | some fw => (fw.1, (r.k : Int)) :: grantedRanges I (slotStep I n r).2 rs

/-- the two outcomes of `slotStep`: refused, or granted from `max(⌊t/I⌋, n)` -/
theorem slotStep_cases (I n : Int) (r : Req) :
    slotStep I n r = (none, n) ∨
    slotStep I n r =
      (some (max (r.t / I) n, max (I * (max (r.t / I) n + r.k - 1) - r.t) 0), max (r.t / I) n + r.k) := by
  simp only [slotStep]
  split
  · exact .inl rfl
  · exact .inr rfl

theorem slotStep_mono (I n : Int) (r : Req) : n ≤ (slotStep I n r).2 := by
  rcases slotStep_cases I n r with h | h <;> rw [h]
  · exact Int.le_refl n
  · exact Int.le_trans (Int.le_max_right _ n) (Int.le_add_of_nonneg_right (Int.natCast_nonneg _))

/-- **one permit per slot**: granted slot ranges never start before the counter, and are disjoint and increasing -/
theorem smooth_one_per_slot (I : Int) :
    ∀ (rs : List Req) (n : Int),
      (∀ fk ∈ grantedRanges I n rs, n ≤ fk.1) ∧
      (grantedRanges I n rs).Pairwise (fun a b => a.1 + a.2 ≤ b.1) := by
  intro rs
  induction rs with
  | nil => intro n; exact ⟨nofun, .nil⟩
  | cons r rs ih =>
    intro n
    have ih' := ih (slotStep I n r).2
    rw [grantedRanges]
    rcases slotStep_cases I n r with h | h <;> rw [h] at ih' ⊢
    · exact ih'
    · refine ⟨List.forall_mem_cons.2 ⟨Int.le_max_right _ n, fun fk hfk => ?_⟩, List.pairwise_cons.2 ih'⟩
      exact Int.le_trans (slotStep_mono I n r) (h ▸ ih'.1 fk hfk)

/-- **earliest / not in the past**: a granted request starts at `max(⌊t/I⌋, n)` and waits exactly until the start of
its last slot (never negative) -/
theorem smooth_earliest (I n : Int) (r : Req) (f w : Int) (h : (slotStep I n r).1 = some (f, w)) :
    f = max (r.t / I) n ∧ w = max (I * (f + r.k - 1) - r.t) 0 ∧ 0 ≤ w := by
  rcases slotStep_cases I n r with e | e <;> rw [e] at h <;> cases h
  exact ⟨rfl, rfl, Int.le_max_right _ 0⟩

/-- **k at once = k singles** (state and wait of the last) -/
theorem smooth_k_eq_singles (c : SCfg) (hI : 0 < c.interval) (s : SSt) (n : Int) (hn : s.next = c.interval * n)
    (t : Int) (k : Nat) (hk : 1 ≤ k) :
    Sm.acquire c.interval s t k (-1) = Sm.singles c.interval t k (0, s) :=
  Sm.acquire_k_eq_singles c.interval hI s n hn t k hk

/-- **a refusal leaves the limiter exactly as it was** -/
theorem smooth_refusal_noop (c : SCfg) (s : SSt) (t k mw : Int) (ht : 0 ≤ t)
    (h : (smoothAcquire c s t k mw).1 = -1) : (smoothAcquire c s t k mw).2 = s := by
  rw [Sm.smoothAcquire_eq c s t k mw ht] at h ⊢
  exact Sm.refusal_is_noop c.interval s t k mw h

/-! ## Bursty: ordinal counter and the per-period bound -/

/-- usable period of each permit for a history of single unlimited-wait requests at the given instants -/
def burstyPeriods (c : BCfg) : BSt → List Int → List Int
  | _, [] => []
  | s, t :: ts =>
    ((t + (burstyAcquire c s t 1 (-1)).1) / c.period) :: burstyPeriods c (burstyAcquire c s t 1 (-1)).2 ts

theorem bursty_single (c : BCfg) (hpp : 0 < c.pp) (hper : 0 < c.period) (s : BSt) (t : Int) (h0 : 0 ≤ t)
    (hcur : s.cur ≤ t / c.period) :
    (burstyAcquire c s t 1 (-1)).2 = (BH.take1 c (BH.roll c s t)).2 ∧
    (t + (burstyAcquire c s t 1 (-1)).1) / c.period = (BH.take1 c (BH.roll c s t)).1 ∧
    0 ≤ (burstyAcquire c s t 1 (-1)).1 := by
  have hcur1 : (BH.roll c s t).cur = t / c.period := rollTo_cur hcur
  rw [acquire_unlimited, roll_eq_BH c s t h0, BH.take1_snd]
  by_cases h : 1 > (BH.roll c s t).avail
  · rw [if_pos h, waitFor_eq c _ t 1 hpp h, BH.take1_of_lt c _ hpp h]
    refine ⟨rfl, ?_, ?_⟩
    · rw [show ∀ x : Int, t + (x - t) = x by omega, Int.mul_ediv_cancel _ (Int.ne_of_gt hper)]
    · -- the wait ends at the start of a period after the current one
      have hlt := Int.lt_ediv_add_one_mul_self t hper
      have := Int.mul_nonneg (Int.ediv_nonneg (by omega : 0 ≤ 1 - (BH.roll c s t).avail - 1) (Int.le_of_lt hpp))
        (Int.le_of_lt hper)
      rw [Int.add_mul, hcur1]
      omega
  · rw [if_neg h, BH.take1_of_ge c _ h, Int.add_zero]
    exact ⟨rfl, hcur1.symm, Int.le_refl 0⟩

theorem burstyPeriods_eq (c : BCfg) (hpp : 0 < c.pp) (hper : 0 < c.period) :
    ∀ (ts : List Int) (s : BSt), BH.Inv c s → (∀ t ∈ ts, 0 ≤ t ∧ s.cur ≤ t / c.period) → ts.Pairwise (· ≤ ·) →
      burstyPeriods c s ts = (BH.run c s ts).map (·.1) := by
  intro ts
  induction ts with
  | nil => intro s _ _ _; rfl
  | cons t ts ih =>
    intro s hi hall hsorted
    have ht := hall t (List.mem_cons_self ..)
    have hs := bursty_single c hpp hper s t ht.1 ht.2
    obtain ⟨hi2, hcur2, hs2⟩ := BH.step_ok c hpp hper s t ts hi (fun t' ht' => (hall t' ht').2) hsorted
    show _ :: _ = _ :: _
    rw [hs.2.1, hs.1]
    exact congrArg _ (ih _ hi2 (fun t' ht' => ⟨(hall t' (List.mem_cons_of_mem _ ht')).1, hcur2 t' ht'⟩) hs2)

/-- **the per-period bound**: for every history of single-permit requests at non-decreasing non-negative instants, at
most `pp` permits become usable within any one period `q` -/
theorem bursty_le_pp_per_period (c : BCfg) (hpp : 0 < c.pp) (hper : 0 < c.period)
    (s : BSt) (hi : s.avail ≤ c.pp) (ts : List Int) (hall : ∀ t ∈ ts, 0 ≤ t ∧ s.cur ≤ t / c.period)
    (hsorted : ts.Pairwise (· ≤ ·)) (q : Int) :
    ((burstyPeriods c s ts).filter (fun p => p = q)).length ≤ c.pp.toNat := by
  rw [burstyPeriods_eq c hpp hper ts s hi hall hsorted]
  have := BH.bursty_le_pp_per_period c hpp hper s hi ts (fun t ht => (hall t ht).2) hsorted q
  rw [List.filter_map, List.length_map]
  exact this

/-- **ordinal refinement** (earliest grant): after the roll the next ordinal is `max(previous, cur·pp)`; each permit takes
the next ordinal `G` and becomes usable in period `⌊G/pp⌋` -/
theorem bursty_refines_ordinals (c : BCfg) (hpp : 0 < c.pp) (s : BSt) (hi : s.avail ≤ c.pp) :
    (BH.take1 c s).1 * c.pp ≤ BH.ord c s ∧ BH.ord c s < ((BH.take1 c s).1 + 1) * c.pp ∧
    BH.ord c (BH.take1 c s).2 = BH.ord c s + 1 := by
  have := BH.take1_spec c s hpp hi
  exact ⟨this.1, this.2.1, this.2.2.1⟩

/-- **k at once = k singles** (same state, wait of the last) -/
theorem bursty_k_eq_singles (c : BCfg) (s : BSt) (t : Int) (k : Nat) (hk : 1 ≤ k) :
    burstyAcquire c s t k (-1) = singles c t k (0, s) := by
  induction hk with
  | refl => rfl
  | @step k _ ih =>
    show _ = burstyAcquire c (singles c t k (0, s)).2 t 1 (-1)
    rw [← ih, acquire_acquire_one, Int.natCast_succ]

/-- with a max wait: refused iff it must wait and the last single's wait exceeds the max wait; else as without -/
theorem bursty_maxwait (c : BCfg) (s : BSt) (t k mw : Int) :
    burstyAcquire c s t k mw =
      if k > (roll c s t).avail ∧ exceeds (burstyAcquire c s t k (-1)).1 mw = true
      then (-1, roll c s t) else burstyAcquire c s t k (-1) := by
  rw [acquire_unlimited]
  unfold burstyAcquire
  by_cases h : k > (roll c s t).avail
  · simp only [h, if_true, true_and]
  · simp only [h, if_false, false_and]

/-- a refused request leaves exactly the rolled state -/
theorem bursty_refusal_state (c : BCfg) (s : BSt) (t k mw : Int) (hpos : 0 ≤ (burstyAcquire c s t k (-1)).1)
    (h : (burstyAcquire c s t k mw).1 = -1) : (burstyAcquire c s t k mw).2 = roll c s t := by
  rw [bursty_maxwait] at h ⊢
  split at h
  · rw [if_pos ‹_›]
  · omega

/-- answers of the bursty limiter over a history -/
def burstyRun (c : BCfg) : BSt → List Req → List Int
  | _, [] => []
  | s, r :: rs => (burstyAcquire c s r.t r.k r.mw).1 :: burstyRun c (burstyAcquire c s r.t r.k r.mw).2 rs

/-- **a refusal is unobservable**: every later history (instants not before the refusal) is answered as if the refused
request had never been made -/
theorem bursty_refusal_unobservable (c : BCfg) (hpp : 0 < c.pp) (hper : 0 < c.period) (s : BSt) (t k mw : Int)
    (h0 : 0 ≤ t) (hw : 0 ≤ (burstyAcquire c s t k (-1)).1) (href : (burstyAcquire c s t k mw).1 = -1)
    (later : List Req) (hl : ∀ r ∈ later, t ≤ r.t) (hs : later.Pairwise (fun a b => a.t ≤ b.t)) :
    burstyRun c (burstyAcquire c s t k mw).2 later = burstyRun c s later := by
  rw [bursty_refusal_state c s t k mw hw href]
  cases later with
  | nil => rfl
  | cons r rs =>
    simp only [burstyRun]
    rw [Failsafe.Limiter.bursty_refusal_unobservable c hpp hper s t h0 r.t r.k r.mw (hl r List.mem_cons_self)]

/-- waits are never negative -/
theorem bursty_wait_nonneg (c : BCfg) (hpp : 0 < c.pp) (hper : 0 < c.period) (s : BSt) (t : Int) (h0 : 0 ≤ t)
    (hcur : s.cur ≤ t / c.period) (hi : s.avail ≤ c.pp) : 0 ≤ (burstyAcquire c s t 1 (-1)).1 :=
  (bursty_single c hpp hper s t h0 hcur).2.2

/-! ## Blocking acquire: a timed model of `acquirePermitsWithMaxWait`

The blocking call arms a timer with the computed wait at instant `armed` and returns `nil` only from the timer branch
(FACTS `selects/ratelimiter.acquirePermitsWithMaxWait`). The Go runtime never fires a timer early (trusted). -/

inductive BlockOutcome | acquired (at_ : Int) | canceled (at_ : Int) | refused
deriving Repr, DecidableEq

/-- the possible outcomes of a blocking acquire armed at `armed` with wait `w`; `fire` is when the runtime delivers the timer -/
def blockingAcquire (w armed fire : Int) (cancelAt : Option Int) : BlockOutcome :=
  if w = -1 then .refused
  else match cancelAt with
    | some c => if c < fire then .canceled c else .acquired fire
    | none => .acquired fire

/-- **a blocking acquire does not succeed before its wait has elapsed** (given timers never fire early) -/
theorem blocking_acquire_not_early (w armed fire : Int) (cancelAt : Option Int) (hfire : armed + w ≤ fire) (at_ : Int)
    (h : blockingAcquire w armed fire cancelAt = .acquired at_) : armed + w ≤ at_ := by
  unfold blockingAcquire at h
  split at h
  · cases h
  · split at h
    · split at h
      · cases h
      · cases h; exact hfire
    · cases h; exact hfire

/-! ## Non-vacuity: concrete configurations and states meeting every hypothesis above -/

example : (0:Int) < (SCfg.mk 100).interval ∧ (SSt.mk 300).next = 100 * 3 := by decide
example : smoothRun ⟨100⟩ ⟨0⟩ [⟨0, 1, 0⟩, ⟨10, 1, 0⟩, ⟨10, 2, -1⟩, ⟨250, 1, 0⟩] = [0, -1, 190, -1] := by decide
example : BH.Inv ⟨2, 100⟩ ⟨2, 0⟩ ∧ (0:Int) < 2 ∧ (0:Int) < 100 := by simp [BH.Inv]
example : burstyPeriods ⟨2, 100⟩ ⟨2, 0⟩ [0, 0, 0, 350, 350, 350, 350, 350] = [0, 0, 1, 3, 3, 4, 4, 5] := by decide
/-- the D1 history on the repaired kernel: the 5-permit burst after the idle gap is refused -/
example : (burstyAcquire ⟨2, 100⟩ (burstyAcquire ⟨2, 100⟩ ⟨2, 0⟩ 0 3 (-1)).2 350 5 0).1 = -1 := by decide

end Failsafe.Props.C05
