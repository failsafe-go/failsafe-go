import Failsafe.Lemmas.Layer
import Failsafe.Tie.Execution
import Failsafe.Lemmas.ExecBodiesLink
import Failsafe.Conc.TraceHedge
/-!
# C17 — execution statistics count attempts, executions, retries and hedges exactly

The counters of the model are the execution's shared atomics (`attempts`, `retries`, `hedges`, `executions`) plus the
harness-side invocation counter `inv`. Events carry the values sampled when they were emitted; the differential check
compares them with `Attempts()` / `Executions()` observed inside every listener, and with `Retries()` / `Hedges()` at the end.

In order: `Attempts = 1 + Retries + Hedges` as an invariant of every policy layer; rejected attempts; the boolean getters regenerated
from `execution.go`; what listeners are shown as the last outcome; the same counter identity on the regenerated bodies of
`execution.go`, for every order of its operations (`section counters`); and on recorded traces of hedged executions (`section hedgeTrace`).
-/
namespace Failsafe.Props.C17
open Failsafe.Exec Failsafe.Classify

/-- `Attempts = 1 + Retries + Hedges` -/
def Stats (r : Run) : Prop := r.attempts = 1 + r.retries + r.hedges

def Preserves (l : Layer) : Prop := ∀ r res r', l r = some (res, r') → Stats r → Stats r'

theorem stats_stable : Stable Stats where
  frame h e := by unfold Stats Run.SameWork at *; omega
  retry h := by unfold Stats at *; simp only; omega
  hedge h := by unfold Stats at *; simp only; omega
  pop _ h := h
  drop h := h

def counters (r : Run) : Nat × Nat × Nat := (r.attempts, r.retries, r.hedges)

@[simp] theorem counters_emit (r : Run) (n : String) (p : Nat) : counters (r.emit n p) = counters r := rfl
@[simp] theorem counters_emitSeen (r : Run) (n : String) (p : Nat) (o : Outcome) : counters (r.emitSeen n p o) = counters r := rfl
@[simp] theorem counters_emitLast (r : Run) (n : String) (p : Nat) : counters (r.emitLast n p) = counters r := rfl
@[simp] theorem counters_setFailed (r : Run) (p n : Nat) : counters (setFailed r p n) = counters r := rfl
@[simp] theorem counters_exceeded (r : Run) (l : List Nat) : counters { r with exceeded := l } = counters r := rfl
@[simp] theorem counters_updBreaker (r : Run) (id : Nat) (f) : counters (updBreaker r id f) = counters r := rfl

theorem stats_fire (r1 : Run) (extra : Nat) (ha : Stats r1) :
    Stats ({ (if r1.cancelled = true then r1 else r1.emit "to.onTimeoutExceeded" r1.timeoutPos) with
              cancelled := true, execs := (if r1.cancelled = true then r1 else r1.emit "to.onTimeoutExceeded" r1.timeoutPos).execs + extra }) :=
  stats_stable.fire extra ha

theorem preserves_iff (l : Layer) : Preserves l ↔ Exec.Preserves Stats l :=
  ⟨fun h r hs res r' e => h r res r' e hs, fun h r res r' e hs => h r hs res r' e⟩

theorem retry_preserves (pos : Nat) (m : Int) (rl : Bool) (h a : List Cond) (inner : Layer) (hi : Preserves inner) :
    ∀ fuel, Preserves (retryLoop pos m rl h a inner fuel) :=
  fun fuel => (preserves_iff _).2 (stats_stable.retryLoop pos m rl h a ((preserves_iff _).1 hi) fuel)

theorem hedge_preserves (pos n : Nat) (co : List Cond) (inner : Layer) (hi : Preserves inner) :
    ∀ fuel k done blocked, Preserves (hedgeLoop pos n co inner fuel k done blocked) :=
  fun fuel k d b => (preserves_iff _).2 (stats_stable.hedgeLoop pos n co ((preserves_iff _).1 hi) fuel k d b)

/-- every policy layer preserves `Attempts = 1 + Retries + Hedges`, whatever is inside it -/
theorem applyPolicy_preserves (fuel pos : Nat) (p : Policy) (inner : Layer) (hi : Preserves inner) :
    Preserves (applyPolicy fuel pos p inner) :=
  (preserves_iff _).2 (stats_stable.applyPolicy fuel pos p ((preserves_iff _).1 hi))

theorem executeStack_preserves (fuel : Nat) (ps : List Policy) : ∀ pos, Preserves (executeStack fuel pos ps) :=
  fun pos => (preserves_iff _).2 (stats_stable.executeStack fuel ps pos)

/-- **`Attempts = 1 + Retries + Hedges` at every event of every execution of every policy list** — the invariant holds in the
final state, and since the log only ever grows by `emit`, which samples the counters of a state satisfying it -/
theorem attempts_eq_one_plus_retries_plus_hedges (fuel : Nat) (ps : List Policy) (w : World) (script : List Item)
    (ck : Option String) (res : PR) (r' : Run)
    (h : execute fuel ps { w := w, script := script, ctxKey := ck } = some (res, r')) :
    r'.attempts = 1 + r'.retries + r'.hedges := by
  revert res r'
  show Answers _ _
  unfold execute
  exact .bind (stats_stable.executeStack fuel ps 0 _ rfl) fun _ _ h1 => .some (by split <;> exact h1)

/-- **an attempt rejected by an open breaker counts as an attempt but not as an execution**: the function is not invoked,
`Executions` does not change -/
theorem breaker_rejection_not_an_execution (fuel pos id : Nat) (h : List Cond) (inner : Layer) (r : Run) (c : Breaker.Cfg) (b : Breaker.B)
    (hb : r.w.breakers[id]? = some (c, b)) (hrej : (Breaker.tryAcquire c b r.w.now).2 = false) (res : PR) (r' : Run)
    (hh : applyPolicy fuel pos (.breaker id h) inner r = some (res, r')) :
    res = failureResult Err.opened ∧ r'.inv = r.inv ∧ r'.execs = r.execs ∧ r'.attempts = r.attempts := by
  simp only [applyPolicy, hb, hrej, Bool.not_false, if_true, Option.some.injEq, Prod.mk.injEq] at hh
  obtain ⟨rfl, rfl⟩ := hh
  obtain ⟨l, bs, he⟩ := drainBreaker_frame (updBreaker r id fun _ _ => (Breaker.tryAcquire c b r.w.now).1) id pos
  rw [he]
  exact ⟨rfl, rfl, rfl, rfl⟩

/-- a full bulkhead likewise: no invocation, no execution -/
theorem bulkhead_rejection_not_an_execution (fuel pos id : Nat) (inner : Layer) (r : Run) (cap held : Nat)
    (hb : r.w.bulk[id]? = some (cap, held)) (hfull : ¬ held < cap) (res : PR) (r' : Run)
    (hh : applyPolicy fuel pos (.bulkhead id) inner r = some (res, r')) :
    res = failureResult Err.full ∧ r'.inv = r.inv ∧ r'.execs = r.execs ∧ r'.attempts = r.attempts := by
  simp only [applyPolicy, hb, hfull, if_false, Option.some.injEq, Prod.mk.injEq] at hh
  obtain ⟨rfl, rfl⟩ := hh
  exact ⟨rfl, rfl, rfl, rfl⟩

example : Stats { w := {}, script := [] } := rfl

/-! ## the boolean flags agree with the counters (about the getters as regenerated from `execution.go`) -/

open Failsafe.ExecKernels in
/-- `IsFirstAttempt ⇔ Attempts = 1` and `IsRetry ⇔ Attempts > 1`, for the regenerated getters -/
theorem flags_agree (c : Counters) :
    (Generated.Execution.isFirstAttemptGen c = true ↔ Generated.Execution.attemptsGen c = 1) ∧
    (Generated.Execution.isRetryGen c = true ↔ Generated.Execution.attemptsGen c > 1) := by
  rw [Tie.Execution.tie_isFirstAttempt, Tie.Execution.tie_isRetry, Tie.Execution.tie_attempts]
  simp [isFirstAttempt, isRetry]

open Failsafe.ExecKernels in
/-- with at least one attempt (always: an execution starts with `Attempts = 1`) exactly one of the two flags holds -/
theorem first_xor_retry (c : Counters) (h : 1 ≤ c.attempts) :
    (Generated.Execution.isFirstAttemptGen c = true ∧ Generated.Execution.isRetryGen c = false) ∨
    (Generated.Execution.isFirstAttemptGen c = false ∧ Generated.Execution.isRetryGen c = true) := by
  rw [Tie.Execution.tie_isFirstAttempt, Tie.Execution.tie_isRetry]
  by_cases h1 : c.attempts = 1
  · left; simp [isFirstAttempt, isRetry, h1]
  · right; simp [isFirstAttempt, isRetry, h1]; omega

open Failsafe.ExecKernels in
/-- under the statistics invariant `Attempts = 1 + Retries + Hedges` an execution "is a retry" as soon as a retry *or a hedge* has
started -/
theorem isRetry_iff_retries_or_hedges (c : Counters) (hs : c.attempts = 1 + c.retries + c.hedges) :
    Generated.Execution.isRetryGen c = true ↔ 0 < c.retries + c.hedges := by
  rw [Tie.Execution.tie_isRetry]; simp [isRetry]; omega

/-! ## What listeners are shown as `LastResult` / `LastError`

Every listener of a retry policy is handed the attempt's outcome (`Props/C16.retry_onFailure_events` carries it in the event);
the policy-level `OnSuccess` / `OnFailure` listeners of breaker and fallback are handed the result they classified, read
through `LastError()`'s context rule (`Run.seenBy`). -/

/-- the value a listener reads is always the result's -/
theorem seenBy_val (r : Run) (o : Outcome) : (r.seenBy o).val = o.val := by
  unfold Run.seenBy; split <;> rfl

/-- an error carried by the result is what the listener reads -/
theorem seenBy_err (r : Run) (o : Outcome) (e : Err) (h : o.err = some e) : r.seenBy o = o := by
  unfold Run.seenBy; simp [h]

/-- while nothing is cancelled (no cancellation from outside, not inside a Timeout scope that has fired) a listener reads
exactly the most recent completed attempt's result and error -/
theorem seenBy_not_cancelled (r : Run) (o : Outcome) (h1 : r.ext = none) (h2 : r.cancelled = false) : r.seenBy o = o := by
  unfold Run.seenBy; simp [h1, h2]

/-- the only deviation: a result without an error, read on a copy whose context is done, shows the context's error -/
theorem seenBy_cancelled (r : Run) (o : Outcome) (h : o.err = none) (hc : r.ext.isSome = true ∨ r.cancelled = true) :
    r.seenBy o = ⟨o.val, some Err.canceled⟩ := by
  unfold Run.seenBy
  rcases hc with hc | hc <;> simp [h, hc]

/-! ## The counters of `execution.go`, on the regenerated bodies

The reference definitions below are what the bodies of `newExecution`'s zero state, `InitializeRetry`, `CopyForHedge`, `record`,
`Cancel`, `RecordResult`, `CopyWithResult` and `LastError` — regenerated from the source on every run — are proved equal to
(`Tie/XExecution.lean`). Hedge attempts run concurrently, so the invariant is stated for **every order** of the operations. -/
section counters
open Failsafe.ExecBodies

/-- every operation the library performs on an execution's shared state -/
inductive XOp
  | initializeRetry | copyForHedge | record
  | cancel (r : Option PR) | recordResult (r : Option PR) | copyWithResult (r : Option PR)

def XOp.apply (s : XSt) : XOp → XSt
  | .initializeRetry => (ExecBodies.initializeRetry s).2
  | .copyForHedge => ExecBodies.copyForHedge s
  | .record => ExecBodies.record s
  | .cancel r => ExecBodies.cancel s r
  | .recordResult r => (ExecBodies.recordResult s r).2
  | .copyWithResult r => ExecBodies.copyWithResult s r

def XInv (s : XSt) : Prop := s.attempts = 1 + s.retries + s.hedges

structure SameCounts (s t : XSt) : Prop where
  attempts : t.attempts = s.attempts
  retries : t.retries = s.retries
  hedges : t.hedges = s.hedges
  executions : t.executions = s.executions

/-- `Cancel`, `RecordResult` and `CopyWithResult` count nothing -/
theorem cancel_counts (s : XSt) (r : Option PR) : SameCounts s (ExecBodies.cancel s r) := by
  unfold ExecBodies.cancel
  split
  · exact ⟨rfl, rfl, rfl, rfl⟩
  · cases r <;> simp only [] <;> split <;> exact ⟨rfl, rfl, rfl, rfl⟩

theorem recordResult_counts (s : XSt) (r : Option PR) : SameCounts s (ExecBodies.recordResult s r).2 := by
  unfold ExecBodies.recordResult
  split
  · exact ⟨rfl, rfl, rfl, rfl⟩
  · cases r <;> exact ⟨rfl, rfl, rfl, rfl⟩

theorem copyWithResult_counts (s : XSt) (r : Option PR) : SameCounts s (ExecBodies.copyWithResult s r) := by
  cases r <;> exact ⟨rfl, rfl, rfl, rfl⟩

theorem xinv_step (s : XSt) (op : XOp) (h : XInv s) : XInv (op.apply s) := by
  have same {t : XSt} (e : SameCounts s t) : XInv t := by unfold XInv; rw [e.attempts, e.retries, e.hedges]; exact h
  unfold XInv at h ⊢
  cases op with
  | initializeRetry =>
    simp only [XOp.apply, ExecBodies.initializeRetry]
    split
    · exact h
    · -- by `h` this is not the first attempt, so it counts as a retry
      simp only []
      split <;> omega
  | copyForHedge => simp only [XOp.apply, ExecBodies.copyForHedge]; omega
  | record => exact h
  | cancel r => exact same (cancel_counts s r)
  | recordResult r => exact same (recordResult_counts s r)
  | copyWithResult r => exact same (copyWithResult_counts s r)

/-- **`Attempts = 1 + Retries + Hedges` after any sequence of the operations of `execution.go`, in any order**, from a new
execution — on the regenerated bodies themselves -/
theorem counters_invariant (ops : List XOp) : XInv (ops.foldl XOp.apply XSt.new) :=
  List.foldlRecOn ops XOp.apply rfl fun s h o _ => xinv_step s o h

/-- a retry is one more attempt and one more retry; a hedge one more attempt and one more hedge; `record` counts a completed
invocation and nothing else -/
theorem counter_steps (s : XSt) (h1 : 1 ≤ s.attempts) :
    ((isCanc s).1 = false → (ExecBodies.initializeRetry s).2.attempts = s.attempts + 1 ∧ (ExecBodies.initializeRetry s).2.retries = s.retries + 1 ∧
        (ExecBodies.initializeRetry s).2.hedges = s.hedges ∧ (ExecBodies.initializeRetry s).2.executions = s.executions) ∧
    ((ExecBodies.copyForHedge s).attempts = s.attempts + 1 ∧ (ExecBodies.copyForHedge s).hedges = s.hedges + 1 ∧
        (ExecBodies.copyForHedge s).retries = s.retries ∧ (ExecBodies.copyForHedge s).isHedge = true) ∧
    ((ExecBodies.record s).executions = s.executions + 1 ∧ (ExecBodies.record s).attempts = s.attempts) := by
  refine ⟨fun h => ?_, ⟨rfl, rfl, rfl, rfl⟩, ⟨rfl, rfl⟩⟩
  simp [ExecBodies.initializeRetry, h]; omega

/-- a rejected attempt (the policy returned before the function) never reaches `record`: `Executions` only moves in `record` -/
theorem executions_only_in_record (s : XSt) (op : XOp) (h : (op.apply s).executions ≠ s.executions) : ∃ _ : op = XOp.record, True := by
  cases op with
  | record => exact ⟨rfl, trivial⟩
  | initializeRetry => simp only [XOp.apply, ExecBodies.initializeRetry] at h; split at h <;> simp at h
  | copyForHedge => simp [XOp.apply, ExecBodies.copyForHedge] at h
  | cancel r => exact absurd (cancel_counts s r).executions h
  | recordResult r => exact absurd (recordResult_counts s r).executions h
  | copyWithResult r => exact absurd (copyWithResult_counts s r).executions h

/-- **what the wrapped function and the listeners read as the last outcome is `LastResult` / `LastError` of the regenerated
`execution.go`** (links of the composition model) -/
theorem model_last_outcome_views_are_the_codes (r : Run) (o : Outcome) :
    r.seenLast = ⟨r.last.val, ExecBodies.lastError { lastVal := r.last.val, lastErr := r.last.err,
                                                     ctxErr := if r.ext.isSome then some Err.canceled else none }⟩ ∧
    r.seenBy o = (let c := ExecBodies.copyWithResult { ctxErr := if r.ext.isSome || r.cancelled then some Err.canceled else none } (some ⟨o.val, o.err, true, false, false⟩)
                  ⟨c.lastVal, ExecBodies.lastError c⟩) :=
  ⟨Failsafe.Lemmas.ExecBodiesLink.seenLast_link r, Failsafe.Lemmas.ExecBodiesLink.seenBy_link r o true false false⟩

example : XInv ([XOp.initializeRetry, .copyForHedge, .record, .cancel none, .initializeRetry].foldl XOp.apply XSt.new) := counters_invariant _
example : ([XOp.initializeRetry, .copyForHedge, .record].foldl XOp.apply XSt.new).attempts = 3 := by decide

end counters

section hedgeTrace
open Failsafe.Conc Failsafe.Conc.Hedge Failsafe.Conc.TraceHedge

/-- the configured number of attempts never changes -/
theorem core_n (n : Nat) (t : TS) (h : Trace.Reach (osys n) t) : t.core.n = n :=
  (reach_induct n (·.n = n) rfl (fun _ _ _ _ h hs => (step_frame hs).1.trans h) t h).2

/-- the number of hedges started, `launched - 1` (the first attempt is not a hedge), moves only with `launchHedge`; `launched` never falls -/
theorem hedges_step {t t' : TS} {x : TraceHedge.Act} (h : TraceHedge.step t x = some t') :
    t'.core.launched - 1 = t.core.launched - 1 + (if x = .launchHedge then 1 else 0) ∧ t.core.launched ≤ t'.core.launched := by
  rcases (step_cases h).1 with ⟨h0, h1⟩ | ⟨y, hy, h1⟩
  · rw [h1, if_neg (by rintro rfl; cases h0)]; exact ⟨rfl, Nat.le_refl _⟩
  · obtain ⟨_, hl, hnl, _⟩ := step_frame h1
    cases x with
    | launchFirst | launchHedge =>
      cases hy
      -- the action's guard `hg` says whether this is the first attempt (`launched = 0`) or a hedge (`0 < launched`)
      obtain ⟨hg, _⟩ := Option.ite_none_right_eq_some.1 h
      rw [hl rfl]; simp; omega
    | _ => cases hy <;> (rw [hnl nofun]; simp)

/-- along any run of the traced hedge system the started-attempt counter grows by exactly the number of `OnHedge` events shown,
plus one for the (unannounced) first attempt if the run starts it -/
theorem launched_counts_hedge_events (n : Nat) (a b : TS) (tr : List Ev) (h : Trace.Run (osys n) a tr b) :
    b.core.launched = a.core.launched + tr.count Ev.hedge + (if a.core.launched = 0 ∧ 0 < b.core.launched then 1 else 0) := by
  have h1 : b.core.launched - 1 = a.core.launched - 1 + tr.countP (· == Ev.hedge) :=
    Trace.Run.count (fun t => t.core.launched - 1) (· = .launchHedge) (· == Ev.hedge) (fun s x s' _ hst => (hedges_step hst).1)
      (fun x hx => hx ▸ rfl) (fun s x e hsh => by rw [shows_act hsh]; cases e <;> simp [actOf]) h
  have h2 : a.core.launched ≤ b.core.launched :=
    Trace.Run.invariant (a.core.launched ≤ ·.core.launched) (fun s x s' hs _ hst => Nat.le_trans hs (hedges_step hst).2) h (Nat.le_refl _)
  rw [List.count_eq_countP]
  split <;> omega

/-- **on traces**: in every trace the model can show — hence in every recorded hedged run the acceptor accepts — the number of attempts
whose function was entered, read after the call has settled, is one more than the number of `OnHedge` calls made before that reading:
each hedge is counted once, the first attempt is not a hedge, and no attempt starts uncounted -/
theorem settled_attempts_eq_hedge_events (n : Nat) (t1 t2 : List Ev) (m : Nat) (c : TS)
    (h : Trace.Run (osys n) (osys n).init (t1 ++ Ev.settled m :: t2) c) : m = t1.count Ev.hedge + 1 := by
  obtain ⟨s, s', x, hrun, _, _, hsh, hst, _⟩ := Trace.Run.observe t1 h
  obtain rfl := shows_act hsh
  have hinv : Inv s.core := reach_inv n s (Trace.Run.reach hrun Trace.Reach.init)
  have hcnt := launched_counts_hedge_events n _ _ _ hrun
  have hm : s.core.launched = m := by
    have h0 : shows s .settled (.settled m) = true := hsh
    simpa [shows] using h0
  obtain ⟨hret, _⟩ := Option.ite_none_right_eq_some.1 hst
  -- something was accepted, so some attempt finished, so at least one was started
  have hpos : 0 < s.core.launched := by
    obtain ⟨x, hx⟩ := Option.isSome_iff_exists.mp (hinv.retAcc hret)
    have hfin := (hinv.produced x (Or.inr hx)).1
    apply Nat.lt_of_not_le; intro hge
    have hlen : x.1 < s.core.n := hinv.len ▸ (List.getElem?_eq_some_iff.1 hfin).1
    rw [hinv.prefixStarted x.1 (by omega) hlen] at hfin; cases hfin
  rw [show (osys n).init.core.launched = 0 from rfl, if_pos ⟨rfl, hpos⟩] at hcnt
  omega

/-- **on traces**: no trace the model can show has more `OnHedge` events than `maxHedges` (`n` attempts in all, the first is not a hedge) -/
theorem hedge_events_le_maxHedges (n : Nat) (tr : List Ev) (c : TS) (h : Trace.Run (osys n) (osys n).init tr c) :
    tr.count Ev.hedge ≤ n - 1 := by
  have hcnt := launched_counts_hedge_events n _ _ _ h
  have hreach := Trace.Run.reach h Trace.Reach.init
  have hle := (reach_inv n c hreach).launchedLe
  rw [core_n n c hreach] at hle
  rw [show (osys n).init.core.launched = 0 from rfl] at hcnt
  split at hcnt <;> omega

/-- non-vacuity, decided by running the acceptor (maxHedges = 1): one hedge, two attempts — accepted; one hedge and a reading of one
or three attempts — rejected -/
example : (Trace.accepts (osys 2) 30 [.enter 0, .hedge, .enter 1, .finish 1 true, .callerRet 1, .finish 0 false, .settled 2]).map (·.isEmpty) = some false := by decide +kernel
example : (Trace.accepts (osys 2) 30 [.enter 0, .hedge, .enter 1, .finish 1 true, .callerRet 1, .settled 1]).map (·.isEmpty) = some true := by decide +kernel
example : (Trace.accepts (osys 2) 30 [.enter 0, .hedge, .enter 1, .finish 1 true, .callerRet 1, .settled 3]).map (·.isEmpty) = some true := by decide +kernel
example : (Trace.accepts (osys 2) 30 [.enter 0, .finish 0 true, .callerRet 0, .settled 1]).map (·.isEmpty) = some false := by decide +kernel

end hedgeTrace

end Failsafe.Props.C17
