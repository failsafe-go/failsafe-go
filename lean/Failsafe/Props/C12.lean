import Failsafe.Classify
/-!
# C12 — failure classification follows the documented handle-condition rules
-/
namespace Failsafe.Props.C12
open Failsafe.Classify

/-- the documented meaning of one condition: errors by `errors.Is`, error types by the type of the error or of anything it
wraps or joins, results by equality **for outcomes without an error**, predicates by the predicate -/
def Cond.matchesDoc (c : Cond) (o : Outcome) : Bool :=
  match c with
  | .errIs t => match o.err with | some e => e.is t | none => false
  | .errType ty => match o.err with | some e => e.typeMatch ty | none => false
  | .result v => o.err.isNone && o.val == v
  | .pred id => predicate id o

theorem eval_eq_matchesDoc (c : Cond) (o : Outcome) : c.eval false o = Cond.matchesDoc c o := by
  cases c <;> rfl

/-! ### builder calls with an empty target list

`HandleErrors()` / `HandleErrorTypes()` with no targets configure **no condition**. The rule's first clause therefore still applies
when such calls are all there is ("no conditions are configured and it carries an error"); next to real conditions they count as
error handling having been configured. -/

def Reg.conds (regs : List Reg) : List Cond := regs.filterMap (fun r => match r with | .cond c => some c | .noTargets => none)
def Reg.inspects : Reg → Bool | .cond c => c.inspectsErrors | .noTargets => true

/-- the rule itself, on what a builder has accumulated: `isFailure_iff` and `isFailureR_iff` are this at `build regs` / `buildR regs` -/
theorem isFailureB_iff (b : Built) (o : Outcome) :
    isFailureB false b o = true ↔
      (b.conds = [] ∧ o.err.isSome) ∨ (∃ c ∈ b.conds, Cond.matchesDoc c o = true) ∨ (o.err.isSome ∧ b.errorsChecked = false) := by
  unfold isFailureB
  cases b.conds with
  | nil =>
    simp only [List.not_mem_nil, false_and, exists_false, false_or, true_and]
    exact ⟨Or.inl, fun h => h.elim id (·.1)⟩
  | cons c cs =>
    simp only [if_false, reduceCtorEq, false_and, false_or]
    by_cases h : (c :: cs).any (fun c => c.eval false o) = true
    · simp only [h, if_true, true_iff]
      left
      simpa [eval_eq_matchesDoc] using h
    · simp only [h]
      have hn : ¬ ∃ c' ∈ c :: cs, Cond.matchesDoc c' o = true := by simpa [eval_eq_matchesDoc] using h
      simp only [hn]
      simp

theorem buildR_spec (regs : List Reg) :
    ∀ b0 : Built, (regs.foldl registerR b0).conds = b0.conds ++ Reg.conds regs ∧
      (regs.foldl registerR b0).errorsChecked = (b0.errorsChecked || regs.any Reg.inspects) := by
  induction regs with
  | nil => intro b0; simp [Reg.conds]
  | cons r rs ih =>
    intro b0
    rw [List.foldl_cons, (ih _).1, (ih _).2]
    cases r <;> simp [registerR, register, Reg.conds, Reg.inspects, Bool.or_assoc]

/-- a list of conditions is a list of builder calls none of which is empty -/
theorem build_eq_buildR (cs : List Cond) : build cs = buildR (cs.map Reg.cond) := by
  simp only [buildR, List.foldl_map]; rfl

theorem Reg.conds_map (cs : List Cond) : Reg.conds (cs.map Reg.cond) = cs :=
  (List.filterMap_map ..).trans List.filterMap_some

/-- **the truth table for every list of builder calls**, empty target lists included -/
theorem isFailureR_iff (regs : List Reg) (o : Outcome) :
    isFailureR regs o = true ↔
      (Reg.conds regs = [] ∧ o.err.isSome) ∨ (∃ c ∈ Reg.conds regs, Cond.matchesDoc c o = true) ∨
      (o.err.isSome ∧ ∀ r ∈ regs, Reg.inspects r = false) := by
  have hb := buildR_spec regs ⟨[], false⟩
  simp [isFailureR, buildR, isFailureB_iff, hb.1, hb.2]

/-- a list of real conditions classifies as before: the extension changes nothing where no empty call occurs -/
theorem isFailureR_conds (cs : List Cond) (o : Outcome) : isFailureR (cs.map Reg.cond) o = isFailure cs o := by
  rw [isFailure, build_eq_buildR]; rfl

/-- **the truth table**, for every registration list (any subset, order, multiplicity) and every outcome: a failure exactly
when no conditions are configured and it carries an error; or some configured condition matches it; or it carries an error
and no error-handling condition was configured -/
theorem isFailure_iff (regs : List Cond) (o : Outcome) :
    isFailure regs o = true ↔
      (regs = [] ∧ o.err.isSome) ∨ (∃ c ∈ regs, Cond.matchesDoc c o = true) ∨
      (o.err.isSome ∧ ∀ c ∈ regs, c.inspectsErrors = false) := by
  rw [← isFailureR_conds, isFailureR_iff, Reg.conds_map]
  simp [Reg.inspects]

/-- an empty `HandleErrors()` alone leaves the default in force: errors are failures (what the trial change `seeded/S-C12-12` breaks) -/
example : isFailureR [.noTargets] ⟨0, some (.leaf 1 0)⟩ = true ∧ isFailureR [.noTargets, .cond (.result 1)] ⟨0, some (.leaf 1 0)⟩ = false := by decide

/-- abort conditions: any match aborts; none configured means never abort -/
theorem abort_iff (regs : List Cond) (o : Outcome) :
    isAbortable regs o = true ↔ ∃ c ∈ regs, Cond.matchesDoc c o = true := by
  simp [isAbortable, eval_eq_matchesDoc]

/-- hedge cancel conditions: any match cancels; none configured means cancel on any result -/
theorem cancel_iff (regs : List Cond) (o : Outcome) :
    isCancellable regs o = true ↔ regs = [] ∨ ∃ c ∈ regs, Cond.matchesDoc c o = true := by
  unfold isCancellable
  cases regs with
  | nil => simp
  | cons c cs => simp [abort_iff]

/-- order and multiplicity of registrations are irrelevant -/
theorem isFailure_perm (r1 r2 : List Cond) (h : ∀ c, c ∈ r1 ↔ c ∈ r2) (o : Outcome) :
    isFailure r1 o = isFailure r2 o := by
  have hnil : r1 = [] ↔ r2 = [] := by simp only [List.eq_nil_iff_forall_not_mem, h]
  rw [Bool.eq_iff_iff, isFailure_iff, isFailure_iff, hnil]
  simp only [h]

/-- the defect D2 as it was (result conditions ignoring the error) violates the table: witness kept for the record -/
theorem result_condition_ignores_error_witness :
    isFailureB true (build [.result 0, .errIs 1]) ⟨0, some (.leaf 2 0)⟩ = true ∧
    isFailure [.result 0, .errIs 1] ⟨0, some (.leaf 2 0)⟩ = false := by decide

/-! non-vacuity -/
example : isFailure [.errType 3, .result 1] ⟨0, some (.wrap 9 10 (.join 8 11 (.leaf 1 0) (.leaf 2 3)))⟩ = true := by decide
example : isFailure [.result 1] ⟨1, none⟩ = true ∧ isFailure [.result 1] ⟨0, some (.leaf 1 0)⟩ = true ∧
          isFailure [.result 1, .pred 0] ⟨0, some (.leaf 1 0)⟩ = false := by decide

end Failsafe.Props.C12
