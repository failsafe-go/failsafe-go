import Failsafe.Adapters
import Failsafe.Delay
import Failsafe.Tie.Adapters
import Failsafe.Conc.Goroutines
/-!
# C18 — HTTP and gRPC adapters are transparent and replay requests faithfully

The models are in `Failsafe/Adapters.lean`; `Tie/Adapters.lean` proves that the predicates
regenerated from `failsafehttp/policy.go` and `failsafegrpc/policy.go` equal the models used here.
-/
namespace Failsafe.Props.C18
open Failsafe.Adapters

/-! ## retried exactly for the documented statuses and errors -/

/-- a response without an error is retried iff its status is 429 or at least 500 and not 501 -/
theorem retryable_status_iff (r : Resp) :
    retryHandle (some r) none = true ↔ (r.status = 429 ∨ (500 ≤ r.status ∧ r.status ≠ 501)) := by
  simp [retryHandle, retryableStatus]

/-- restricted to the status codes that exist: 429 and the 5xx codes except 501 -/
theorem retryable_status_5xx (r : Resp) (h : 100 ≤ r.status ∧ r.status ≤ 599) :
    retryHandle (some r) none = true ↔ (r.status = 429 ∨ (500 ≤ r.status ∧ r.status ≤ 599 ∧ r.status ≠ 501)) := by
  rw [retryable_status_iff]; omega

/-- an error is retried unless it is an unsupported-scheme error, or a `*url.Error` that reports an untrusted certificate,
    too many redirects or an unknown authority — whatever response accompanies it -/
theorem retryable_error_iff (resp : Option Resp) (e : HErr) :
    retryHandle resp (some e) = true ↔
      (e.unsupportedScheme = false ∧
       ¬ (e.isUrlError = true ∧ (e.certNotTrusted = true ∨ e.stoppedAfterRedirects = true ∨ e.unknownAuthority = true))) := by
  cases hu : e.isUrlError <;> simp [retryHandle, retryableError, hu, and_assoc]

theorem nothing_to_retry : retryHandle none none = false := rfl

/-- the same facts about the predicate as regenerated from the source -/
theorem generated_retryable_status_iff (r : Resp) :
    Generated.Adapters.retryHandleGen (some r) none = true ↔ (r.status = 429 ∨ (500 ≤ r.status ∧ r.status ≠ 501)) := by
  rw [Tie.Adapters.tie_retryHandle]; exact retryable_status_iff r

/-! ## Retry-After -/

/-- `DelayFunc` returns the header's seconds for a 429 / 503 with an integer `Retry-After`, and -1 ("no opinion") otherwise -/
theorem delayFn_spec (r : Resp) :
    delayFn (some r) = (if (r.status = 429 ∨ r.status = 503) then (match r.ra with | .int n => 1000000000 * n | _ => -1) else -1) := by
  obtain ⟨st, ra⟩ := r
  cases ra <;> simp only [delayFn, Bool.or_eq_true, beq_iff_eq]

theorem delayFn_none : delayFn none = -1 := rfl

/-- the delay the retry policy schedules after a 429 / 503 carrying `Retry-After: n` is at least `n` seconds (and exactly
    `n` seconds when `n ≥ 0`), for the builder's default delay configuration (no jitter, no max duration), any backoff state
    and any attempt number. The wait itself is never shorter than the scheduled delay: C13 `attempt_not_before_delay`. -/
theorem retry_after_respected (c : Delay.Cfg) (r : Resp) (n : Int) (hs : r.status = 429 ∨ r.status = 503) (hra : r.ra = .int n)
    (hfn : c.delayFn = delayFn (some r)) (hj : c.jitter = 0) (hjf : (c.jitterFactor != 0) = false) (hmd : c.maxDuration = 0)
    (last retries elapsed ranged addend factored : Int) :
    let d := (Delay.getDelay c last retries elapsed ranged addend factored).1
    1000000000 * n ≤ d ∧ (0 ≤ n → d = 1000000000 * n) := by
  have hd : c.delayFn = 1000000000 * n := by rw [hfn, delayFn_spec]; simp [hs, hra]
  have hc : c.delayFn ≠ -2 ∧ c.delayFn ≠ -1 := by omega
  -- no jitter, no max duration: the delay function's answer, floored at 0
  simp only [Delay.getDelay, if_pos hc, Delay.adjustForJitter, Delay.adjustForMaxDuration, hj, hjf, hmd, ne_eq, not_true,
    Bool.false_eq_true, if_false, ite_self]
  omega

/-! ## gRPC -/

/-- with the code table extracted from the source, exactly Unavailable, DeadlineExceeded and ResourceExhausted status errors
    are retried; plain errors and successful calls are not -/
theorem grpc_retryable_iff (e : Option GErr) :
    grpcHandle Generated.Facts.grpcRetryableCodes e = true ↔ (e = some (.status 4) ∨ e = some (.status 8) ∨ e = some (.status 14)) := by
  rcases e with _ | _ | _ <;> simp [Tie.Adapters.grpc_table, grpcHandle]

theorem generated_grpc_retryable_iff (e : Option GErr) :
    Generated.Adapters.grpcHandleGen Generated.Facts.grpcRetryableCodes e = true ↔
      (e = some (.status 4) ∨ e = some (.status 8) ∨ e = some (.status 14)) := by
  rw [Tie.Adapters.tie_grpcHandle]; exact grpc_retryable_iff e

/-! ## the attempt loop: how many attempts, and which response is returned -/

/-- Complete characterisation of the retry loop over any script, for every retry budget `b` and start index `i`:
    attempts `i … n-1` are made; every attempt before the last was retryable and did not abort; the loop stops early only at an
    attempt that is not retryable or aborts; the final result is the last attempt's; `ExceededError` is reported only when the
    budget is used up by a retryable attempt. -/
theorem retryLoop_spec {α : Type} (retryable aborts : α → Bool) (script : Nat → α) (rlf : Bool) (b i : Nat) :
    let n := (retryLoop retryable aborts script rlf b i).1
    let f := (retryLoop retryable aborts script rlf b i).2
    i < n ∧ n ≤ i + b + 1 ∧
    (∀ j, i ≤ j → j + 1 < n → retryable (script j) = true ∧ aborts (script j) = false) ∧
    f.att = script (n - 1) ∧
    (n < i + b + 1 → retryable (script (n - 1)) = false ∨ aborts (script (n - 1)) = true) ∧
    (∀ a, f = .exceeded a → retryable a = true ∧ n = i + b + 1 ∧ rlf = false) := by
  fun_induction retryLoop retryable aborts script rlf b i with
  | case1 b i a hr =>
    exact ⟨by omega, by omega, fun j _ _ => by omega, rfl, fun _ => .inl (by simpa using hr), fun _ h => nomatch h⟩
  | case2 i a hr =>
    refine ⟨by omega, by omega, fun j _ _ => by omega, by cases rlf <;> rfl, fun h => by omega, fun x h => ?_⟩
    cases rlf <;> cases h
    exact ⟨by simpa using hr, rfl, rfl⟩
  | case3 i a hr b ha =>
    exact ⟨by omega, by omega, fun j _ _ => by omega, rfl, fun _ => .inr ha, fun _ h => nomatch h⟩
  | case4 i a hr b ha ih =>
    obtain ⟨h1, h2, h3, h4, h5, h6⟩ := ih
    refine ⟨by omega, by omega, fun j hj hjn => ?_, h4, fun hn => h5 (by omega), fun a hfa => ?_⟩
    · rcases Nat.eq_or_lt_of_le hj with rfl | hlt
      · exact ⟨by simpa using hr, by simpa using ha⟩
      · exact h3 j hlt hjn
    · obtain ⟨x, y, z⟩ := h6 a hfa; exact ⟨x, by omega, z⟩

/-- attempt `j+1` is made iff every attempt up to `j` was retryable and not aborting, and the budget allows it: for every
retry loop, whatever its two predicates -/
theorem retryLoop_next_iff {α : Type} (retryable aborts : α → Bool) (script : Nat → α) (rlf : Bool) (m j : Nat) :
    j + 2 ≤ (retryLoop retryable aborts script rlf m 0).1 ↔
      (j < m ∧ ∀ k, k ≤ j → retryable (script k) = true ∧ aborts (script k) = false) := by
  obtain ⟨h1, h2, h3, _, h5, _⟩ := retryLoop_spec retryable aborts script rlf m 0
  refine ⟨fun h => ⟨by omega, fun k hk => h3 k (by omega) (by omega)⟩, fun ⟨hj, hall⟩ => ?_⟩
  -- otherwise the loop stopped early, at an attempt that `hall` says was retryable and did not abort
  refine Decidable.byContradiction fun hlt => ?_
  have hk := hall ((retryLoop retryable aborts script rlf m 0).1 - 1) (by omega)
  rcases h5 (by omega) with h | h
  · rw [hk.1] at h; cases h
  · rw [hk.2] at h; cases h

/-- at most `maxRetries + 1` attempts reach the server -/
theorem attempts_le (script : Nat → Att) (rlf : Bool) (m : Nat) : (retryRun script rlf m 0).1 ≤ m + 1 := by
  have := (retryLoop_spec Att.retryable Att.aborts script rlf m 0).2.1; unfold retryRun; omega

/-- attempt `j+1` is made iff every attempt up to `j` was retryable and not aborting, and the budget allows it -/
theorem next_attempt_iff (script : Nat → Att) (rlf : Bool) (m j : Nat) :
    j + 2 ≤ (retryRun script rlf m 0).1 ↔
      (j < m ∧ ∀ k, k ≤ j → (script k).retryable = true ∧ (script k).aborts = false) :=
  retryLoop_next_iff Att.retryable Att.aborts script rlf m j

/-- the result handed back is the last attempt's own response / error (wrapped in `ExceededError` when the budget ran out) -/
theorem returned_is_last_attempt (script : Nat → Att) (rlf : Bool) (m : Nat) :
    (retryRun script rlf m 0).2.att = script ((retryRun script rlf m 0).1 - 1) :=
  (retryLoop_spec Att.retryable Att.aborts script rlf m 0).2.2.2.1

/-- a non-retryable first response is returned as it is after exactly one attempt -/
theorem non_retryable_returned_at_once (script : Nat → Att) (rlf : Bool) (m : Nat) (h : (script 0).retryable = false) :
    retryRun script rlf m 0 = (1, .returned (script 0)) := by
  unfold retryRun retryLoop; simp [h]

/-- gRPC: a call is re-invoked iff every earlier outcome was a status error with a code of the table, within the budget;
    the error handed back is the last invocation's -/
theorem grpc_next_attempt_iff (script : Nat → Option GErr) (m j : Nat) :
    j + 2 ≤ (grpcRun Generated.Facts.grpcRetryableCodes script m).1 ↔
      (j < m ∧ ∀ k, k ≤ j → (script k = some (.status 4) ∨ script k = some (.status 8) ∨ script k = some (.status 14))) := by
  simp only [grpcRun, retryLoop_next_iff, grpc_retryable_iff, and_true]

theorem grpc_returned_is_last (script : Nat → Option GErr) (m : Nat) :
    (grpcRun Generated.Facts.grpcRetryableCodes script m).2.att = script ((grpcRun Generated.Facts.grpcRetryableCodes script m).1 - 1) :=
  (retryLoop_spec (grpcHandle Generated.Facts.grpcRetryableCodes) (fun _ => false) script false m 0).2.2.2.1

/-! ## the request body is replayed in full -/

theorem attemptsRead_spec (c : Captured) (n : Nat) (s : Src) (exp : List Nat)
    (h : ∀ s' : Src, s'.content = s.content → (attemptRead c s').1 = exp) :
    ∀ b ∈ attemptsRead c n s, b = exp := by
  induction n generalizing s with
  | zero => simp [attemptsRead]
  | succ n ih =>
    intro b hb
    simp only [attemptsRead, List.mem_cons] at hb
    rcases hb with hb | hb
    · rw [hb]; exact h s rfl
    · have hc : (attemptRead c s).2.content = s.content := by
        unfold attemptRead; cases c <;> rfl
      exact ih (attemptRead c s).2 (fun s' hs' => h s' (hs'.trans hc)) b hb

/-- Every body kind, content, initial read position and number of sequential attempts: each attempt reads exactly the bytes
    the caller's request would have sent (everything from the reader's position at hand-over), none for a nil body. -/
theorem body_replayed_in_full (k : BodyKind) (s : Src) (n : Nat) :
    ∀ b ∈ attemptsRead (capture k s).1 n (capture k s).2, b = (if k = .none then [] else s.rest) := by
  apply attemptsRead_spec
  intro s' hs'
  cases k <;> simp [capture, attemptRead, Src.rest] at hs' ⊢
  · rw [hs']

theorem attemptsRead_length (c : Captured) (n : Nat) (s : Src) : (attemptsRead c n s).length = n := by
  induction n generalizing s with
  | zero => rfl
  | succ n ih => simp [attemptsRead, ih]

/-! concurrent attempts (hedging) -/

theorem getD_setKV {α} (l : List (Nat × α)) (k k' : Nat) (v d : α) :
    getD (setKV l k v) k' d = if k' = k then v else getD l k' d := by
  split
  next h => subst h; simp [getD, setKV]
  next h =>
    have hne : (k == k') = false := by simpa using fun e => h e.symm
    simp only [getD, setKV, List.find?_cons, hne, List.find?_filter]
    -- a pair found under `k'` is not one the update removed
    congr 3; funext x; by_cases hx : x.1 = k' <;> simp [hx, h]

theorem take_chunk (bytes : List Nat) (p n : Nat) :
    bytes.take p ++ (bytes.drop p).take n = bytes.take (p + ((bytes.drop p).take n).length) := by
  rw [List.take_add, List.length_take, ← List.take_eq_take_min]

/-- Buffered bodies (every kind `http.Request.Body` can hold except seekable streams): whatever the interleaving of the
    attempts' reads, what an attempt has received is always a prefix of the full body, determined by its own reads only. -/
theorem buffered_attempts_independent (bytes : List Nat) (acts : List RAct) (st : ConcSt)
    (h : ∀ a, getD st.got a [] = bytes.take (getD st.priv a 0)) :
    ∀ a, getD (acts.foldl (concStep (.buffered bytes)) st).got a [] =
         bytes.take (getD (acts.foldl (concStep (.buffered bytes)) st).priv a 0) := by
  induction acts generalizing st with
  | nil => simpa using h
  | cons act acts ih =>
    apply ih
    intro a
    -- either step moves one attempt, to a position `p` with `bytes.take p` received
    cases act with
    | start a' =>
      simp only [concStep, getD_setKV]
      split
      · rfl
      · exact h a
    | read a' n =>
      simp only [concStep, getD_setKV]
      split
      · rw [h a', take_chunk]
      · exact h a

/-- a seekable stream body is shared by concurrent attempts: a schedule exists in which the first attempt receives bytes
    `[1,2,2,3,4]` of the body `[1,2,3,4]` (known finding D9; sequential attempts are covered by `body_replayed_in_full`) -/
theorem seekable_shared_witness :
    let st0 : ConcSt := ⟨⟨[1, 2, 3, 4], 0⟩, [], []⟩
    let acts := [RAct.start 0, .read 0 2, .start 1, .read 1 1, .read 0 4, .read 1 4]
    let st := acts.foldl (concStep (.seek 0)) st0
    getD st.got 0 [] = [1, 2, 2, 3, 4] ∧ getD st.got 1 [] = [1] := by decide

/-! ## the context an attempt runs under -/

/-- the three answers of `MergeContexts` -/
theorem merge_cases (a b : Ctx) (own : Nat) :
    (a.isBg = true ∧ merge a b own = b) ∨ (a.isBg = false ∧ b.isBg = true ∧ merge a b own = a) ∨
    (a.isBg = false ∧ b.isBg = false ∧
      merge a b own = { vals := a.vals, deadline := a.deadline, srcs := a.srcs ++ b.srcs ++ [own] }) := by
  unfold merge
  cases a.isBg <;> cases b.isBg <;> simp

/-- `context.Background()` carries nothing and never ends -/
theorem bg_empty (a : Ctx) (ha : a.WF) (h : a.isBg = true) :
    (∀ k, a.lookup k = none) ∧ a.deadline = none ∧ ∀ fired, a.done fired = false := by
  obtain ⟨hv, hd, hs⟩ := ha h
  simp [Ctx.lookup, Ctx.done, hv, hd, hs]

theorem attempt_ctx_carries_caller_values (a b : Ctx) (own : Nat) (ha : a.WF) (k v : Nat) (h : a.lookup k = some v) :
    (merge a b own).lookup k = some v := by
  rcases merge_cases a b own with ⟨hbg, _⟩ | ⟨_, _, e⟩ | ⟨_, _, e⟩
  · rw [(bg_empty a ha hbg).1] at h; cases h
  · rw [e]; exact h
  · rw [e]; exact h

theorem attempt_ctx_carries_caller_deadline (a b : Ctx) (own : Nat) (ha : a.WF) (d : Int) (h : a.deadline = some d) :
    (merge a b own).deadline = some d := by
  rcases merge_cases a b own with ⟨hbg, _⟩ | ⟨_, _, e⟩ | ⟨_, _, e⟩
  · rw [(bg_empty a ha hbg).2.1] at h; cases h
  · rw [e]; exact h
  · rw [e]; exact h

/-- done when the caller's context is -/
theorem attempt_ctx_done_when_caller_done (a b : Ctx) (own : Nat) (ha : a.WF) (fired : Nat → Bool) (h : a.done fired = true) :
    (merge a b own).done fired = true := by
  rcases merge_cases a b own with ⟨hbg, _⟩ | ⟨_, _, e⟩ | ⟨_, _, e⟩
  · rw [(bg_empty a ha hbg).2.2] at h; cases h
  · rw [e]; exact h
  · simp only [e, Ctx.done, List.any_append, Bool.or_eq_true] at h ⊢; exact Or.inl (Or.inl h)

/-- … and when the execution's context is (timeout, hedge cancellation, executor context) -/
theorem attempt_ctx_done_when_exec_done (a b : Ctx) (own : Nat) (hb : b.WF) (fired : Nat → Bool) (h : b.done fired = true) :
    (merge a b own).done fired = true := by
  rcases merge_cases a b own with ⟨_, e⟩ | ⟨_, hbg, _⟩ | ⟨_, _, e⟩
  · rw [e]; exact h
  · rw [(bg_empty b hb hbg).2.2] at h; cases h
  · simp only [e, Ctx.done, List.any_append, Bool.or_eq_true] at h ⊢; exact Or.inl (Or.inr h)

/-- … and never otherwise: only the caller, the execution or the attempt's own release end it -/
theorem attempt_ctx_done_only_if (a b : Ctx) (own : Nat) (fired : Nat → Bool) (h : (merge a b own).done fired = true) :
    a.done fired = true ∨ b.done fired = true ∨ fired own = true := by
  rcases merge_cases a b own with ⟨_, e⟩ | ⟨_, _, e⟩ | ⟨_, _, e⟩ <;> rw [e] at h
  · exact Or.inr (Or.inl h)
  · exact Or.inl h
  · simpa [Ctx.done] using h

/-! ## the returned response can be read to the end -/

section readable
open Failsafe.Conc.Goroutines

/-- a response body is readable while the per-attempt context it was obtained under has not been released (net/http behaviour:
modelled, validated by DIFF with streamed bodies read after the call returned) -/
def readable (s : HttpSt) (j : Nat) : Bool := s.liveCtxs.contains j

/-- with the source's shape (FACTS: the context is released when the body is closed, not when the attempt returns) the response
of the last attempt is open and readable after any sequence of attempts, whatever happened to the earlier ones -/
theorem returned_body_readable (rs : List Bool) (s : HttpSt) (i : Nat) :
    (httpAttempts ⟨true, true⟩ s i (rs ++ [true])).lastResp = some (i + rs.length) ∧
    readable (httpAttempts ⟨true, true⟩ s i (rs ++ [true])) (i + rs.length) = true ∧
    (i + rs.length) ∈ (httpAttempts ⟨true, true⟩ s i (rs ++ [true])).openBodies := by
  induction rs generalizing s i with
  | nil =>
    simp [httpAttempts, httpAttempt, readable]
  | cons x xs ih =>
    have := ih (httpAttempt ⟨true, true⟩ s i x) (i + 1)
    have e : i + 1 + xs.length = i + (xs.length + 1) := by omega
    simp only [List.cons_append, httpAttempts, List.length_cons]
    rw [e] at this
    exact this

/-- the defective shape (D6: release when the attempt returns): the returned response's context is already gone -/
theorem body_unreadable_witness : readable (httpAttempts ⟨true, false⟩ {} 0 [true]) 0 = false := by decide

/-- the source has the repaired shape -/
theorem http_release_shape : Generated.Facts.httpReleaseOnBodyClose = true := by decide

end readable

/-! ## non-vacuity -/

example : retryHandle (some ⟨503, .int 2⟩) none = true ∧ retryHandle (some ⟨501, .absent⟩) none = false ∧ delayFn (some ⟨503, .int 2⟩) = 2000000000 := by decide
example : retryRun (fun i => if i < 2 then .resp ⟨503, .absent⟩ else .resp ⟨200, .absent⟩) false 3 0 = (3, .returned (.resp ⟨200, .absent⟩)) := by decide
example : retryRun (fun _ => .resp ⟨500, .absent⟩) false 2 0 = (3, .exceeded (.resp ⟨500, .absent⟩)) := by decide
example : (attemptsRead (capture .seekable ⟨[1,2,3,4,5], 2⟩).1 3 (capture .seekable ⟨[1,2,3,4,5], 2⟩).2) = [[3,4,5],[3,4,5],[3,4,5]] := by decide
example : (⟨false, [(1, 7)], some 99, [5]⟩ : Ctx).WF ∧ (merge ⟨false, [(1, 7)], some 99, [5]⟩ ⟨false, [(1, 8)], none, [6]⟩ 9).lookup 1 = some 7 := by
  constructor
  · intro h; cases h
  · decide

end Failsafe.Props.C18
