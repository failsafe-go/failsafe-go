import Failsafe.Conc.Goroutines
import Failsafe.Conc.Timeout
import Failsafe.Conc.Future
import Failsafe.Generated.Facts
import Failsafe.Props.C07
/-!
# C19 — finished executions leave no goroutines or connections behind

Models in `Conc/Goroutines.lean`, `Conc/Timeout.lean`, `Conc/Future.lean`. The spawn-site set and the
shape inputs come from FACTS (`Generated/Facts.lean`), so a new `go` statement or a changed release path is a broken obligation.
-/
namespace Failsafe.Props.C19
open Failsafe.Conc Failsafe.Conc.Goroutines

/-! ## the set of things the library starts is exactly the modelled one -/

theorem spawn_sites_are_the_modelled_ones :
    Generated.Facts.spawnSites =
      ["context.AfterFunc internal/util/util.go:.MergeContexts",
       "go executor.go:executor.executeAsync",
       "go hedgepolicy/hedgeexecutor.go:executor.Apply",
       "time.AfterFunc timeout/timeoutexecutor.go:executor.Apply",
       "time.NewTimer bulkhead/bulkhead.go:bulkhead.AcquirePermitWithMaxWait",
       "time.NewTimer hedgepolicy/hedgeexecutor.go:executor.Apply",
       "time.NewTimer ratelimiter/ratelimiter.go:rateLimiter.AcquirePermits",
       "time.NewTimer ratelimiter/ratelimiter.go:rateLimiter.acquirePermitsWithMaxWait",
       "time.NewTimer retrypolicy/retryexecutor.go:executor.Apply",
       "time.Sleep ratelimiter/ratelimiter.go:rateLimiter.AcquirePermits"] := rfl

/-! ## hedge attempt goroutines never block on their send -/

/-- the enabled steps, one case each: what holds of every step taken is proved from this, without unfolding `hstep` again -/
theorem hstep_elim (s : HSt) {P : HAct → HSt → Prop}
    (launch : s.coordWaiting = true → P .launch { s with gs := s.gs ++ [.running] })
    (wins : ∀ k, s.gs[k]? = some .running → s.sent = false → P (.finish k true) { s with gs := s.gs.set k .wantSend, sent := true })
    (ends : ∀ k wants, s.gs[k]? = some .running → (wants && !s.sent) = false → P (.finish k wants) { s with gs := s.gs.set k .done })
    (meets : ∀ k, s.gs[k]? = some .wantSend → s.cap = 0 → s.coordWaiting = true →
      P (.send k) { s with gs := s.gs.set k .done, received := true, coordWaiting := false })
    (buffers : ∀ k, s.gs[k]? = some .wantSend → s.cap ≠ 0 → s.chanLen < s.cap →
      P (.send k) { s with gs := s.gs.set k .done, chanLen := s.chanLen + 1 })
    (recv : s.coordWaiting = true → 0 < s.chanLen → P .recv { s with chanLen := s.chanLen - 1, received := true, coordWaiting := false })
    (leave : s.coordWaiting = true → P .leave { s with coordWaiting := false })
    (a : HAct) (s' : HSt) (hs : hstep s a = some s') : P a s' := by
  cases a <;> simp only [hstep, Option.ite_none_right_eq_some, Option.some.injEq] at hs
  case launch => obtain ⟨h, rfl⟩ := hs; exact launch h
  case finish k wants =>
    obtain ⟨hk, hs⟩ := hs
    split at hs <;> cases hs
    next hw =>
      simp only [Bool.and_eq_true, Bool.not_eq_true'] at hw
      obtain ⟨rfl, hw⟩ := hw
      exact wins k hk hw
    next hw => exact ends k wants hk (Bool.eq_false_iff.2 hw)
  case send k =>
    obtain ⟨hk, hs⟩ := hs
    split at hs
    next hc => obtain ⟨hw, ⟨⟩⟩ := Option.ite_none_right_eq_some.1 hs; exact meets k hk hc hw
    next hc => obtain ⟨hl, ⟨⟩⟩ := Option.ite_none_right_eq_some.1 hs; exact buffers k hk hc hl
  case recv => obtain ⟨h, rfl⟩ := hs; exact recv h.1 h.2
  case leave => obtain ⟨h, rfl⟩ := hs; exact leave h

/-- what every enabled step preserves holds along every run (a disabled action is a no-op) -/
theorem hrun_preserves {P : HSt → Prop} (hP : ∀ s s' a, P s → hstep s a = some s' → P s') (as : List HAct) :
    ∀ s, P s → P (hrun s as) := by
  induction as with
  | nil => exact fun _ h => h
  | cons a as ih =>
    intro s h
    simp only [hrun]
    cases hs : hstep s a with
    | none => exact ih s h
    | some s' => exact ih s' (hP s s' a h hs)

theorem hinv_init (cap : Nat) : HInv { cap := cap } := rfl

theorem hinv_step (s s' : HSt) (a : HAct) (h : HInv s) (hs : hstep s a = some s') : HInv s' := by
  unfold HInv at h
  -- the flag counts at most one result, so one that is pending or buffered has not been received
  have : (if s.sent then 1 else 0) ≤ 1 := by split <;> omega
  refine hstep_elim s (P := fun _ s' => HInv s') ?launch ?wins ?ends ?meets ?buffers ?recv ?leave a s' hs <;> unfold HInv <;> dsimp only
  case launch => intro _; simpa using h
  case wins =>
    intro k hk hsent
    have := count_set_to (x := G.wantSend) hk nofun
    simp only [hsent, Bool.false_eq_true, ↓reduceIte] at h ⊢
    omega
  case ends =>
    intro k _ hk _
    have := count_set_ne (b := G.done) (x := G.wantSend) hk nofun nofun
    omega
  case meets =>
    intro k hk _ _
    have := count_set_from (b := G.done) hk nofun
    simp only [↓reduceIte]
    omega
  case buffers =>
    intro k hk _ _
    have := count_set_from (b := G.done) hk nofun
    omega
  case recv =>
    intro _ hl
    simp only [↓reduceIte]
    omega
  case leave => exact fun _ => h

theorem hstep_cap (s s' : HSt) (a : HAct) (hs : hstep s a = some s') : s'.cap = s.cap :=
  hstep_elim s (P := fun _ s' => s'.cap = s.cap) (fun _ => rfl) (fun _ _ _ => rfl) (fun _ _ _ _ => rfl) (fun _ _ _ _ => rfl)
    (fun _ _ _ _ => rfl) (fun _ _ => rfl) (fun _ => rfl) a s' hs

/-- **No hedge attempt goroutine is ever stuck**, for any number of attempts, any schedule, whether the coordinator received a
result or returned because the execution was cancelled: with a result channel of capacity ≥ 1, an attempt whose function
has returned has ended, or its send completes in one step and then it has ended. -/
theorem attempt_goroutines_finish (cap : Nat) (hcap : 1 ≤ cap) (as : List HAct) (k : Nat) :
    let s := hrun { cap := cap } as
    s.gs[k]? = some .wantSend → ∃ s', hstep s (.send k) = some s' ∧ s'.gs[k]? = some .done := by
  intro s hk
  have hinv : HInv s := hrun_preserves hinv_step as _ (hinv_init cap)
  have hc : s.cap = cap := hrun_preserves (fun s s' a h hs => (hstep_cap s s' a hs).trans h) as _ rfl
  have hcount : 1 ≤ s.gs.count .wantSend := List.count_pos_iff.2 (List.mem_of_getElem? hk)
  unfold HInv at hinv
  have hlen : s.chanLen = 0 := by split at hinv <;> split at hinv <;> omega
  refine ⟨{ s with gs := s.gs.set k .done, chanLen := s.chanLen + 1 }, ?_, getElem?_set_of_some hk⟩
  simp [hstep, hk, show s.cap ≠ 0 by omega, show s.chanLen < s.cap by omega]

theorem hedge_chan_cap_ok : 1 ≤ Generated.Facts.hedgeChanCap := by decide

theorem stuck_step (s s' : HSt) (a : HAct) {k : Nat} (hc : s.cap = 0) (hw : s.coordWaiting = false) (hg : s.gs[k]? = some .wantSend)
    (hs : hstep s a = some s') : s'.cap = 0 ∧ s'.coordWaiting = false ∧ s'.gs[k]? = some .wantSend := by
  -- the coordinator has left: only an attempt that is still running can finish, and that leaves attempt `k` where it is
  have keep : ∀ j g, s.gs[j]? = some .running → (s.gs.set j g)[k]? = some .wantSend :=
    fun j g hj => getElem?_set_of_ne_val hj nofun hg
  have gone : s.coordWaiting = true → False := fun h => nomatch hw.symm.trans h
  exact hstep_elim s (P := fun _ s' => s'.cap = 0 ∧ s'.coordWaiting = false ∧ s'.gs[k]? = some .wantSend)
    (launch := fun h => (gone h).elim) (wins := fun j hj _ => ⟨hc, hw, keep j _ hj⟩) (ends := fun j _ hj _ => ⟨hc, hw, keep j _ hj⟩)
    (meets := fun _ _ _ h => (gone h).elim) (buffers := fun _ _ h _ => absurd hc h) (recv := fun h _ => (gone h).elim)
    (leave := fun h => (gone h).elim) a s' hs

/-- why the capacity matters: with an unbuffered channel, an attempt that finishes after the coordinator returned on
cancellation is blocked on its send in every continuation -/
theorem unbuffered_channel_leaks (as : List HAct) :
    (hrun (hrun { cap := 0 } [.launch, .leave, .finish 0 true]) as).gs[0]? = some .wantSend := by
  exact hrun_preserves (P := fun s => s.cap = 0 ∧ s.coordWaiting = false ∧ s.gs[0]? = some .wantSend)
    (fun s s' a ⟨hc, hw, hg⟩ hs => stuck_step s s' a hc hw hg hs) as _ (by decide) |>.2.2

/-! ## the context merger's watcher -/

theorem wreach_closed : closedB (wsys true) (wreach true) = true := by decide

/-- with a cancel function that stops the watcher: once an attempt has released its merged context, nothing that only a
source context could end is left behind — the watcher is gone or is finishing its callback -/
theorem watcher_ends_on_release (s : WSt) (h : Reachable (wsys true) s) : watcherEnds s = true :=
  invariant_of_closed (wsys true) (wreach true) watcherEnds wreach_closed (by decide) s h

/-- the defective shape (watcher ended only by its source contexts): after release it is still registered -/
theorem watcher_leak_witness : (wstep { stopOnRelease := false } .release).map (·.w) = some .registered := by decide

theorem merge_release_stops_watcher : Generated.Facts.mergeReleaseStopsWatcher = true := by decide

/-! ## the timeout's timer callback and the async runner -/

/-- run whatever the timer side can still do (its steps are unconditional once started) -/
def drainTimer (s : Timeout.St) : Timeout.St :=
  let f := fun (s : Timeout.St) =>
    match Timeout.step s .cbCAS with
    | some s' => s'
    | none => match Timeout.step s .cbListener with
      | some s' => s'
      | none => (Timeout.step s .cbCancel).getD s
  f (f (f s))

/-- once the call through a Timeout has returned, its timer is stopped before starting, or its callback ends within three
more steps of its own (no step of it waits for anything) -/
theorem timeout_timer_quiesces (fnBlocks : Bool) (s : Timeout.St) (h : Reachable (Timeout.sys fnBlocks) s) (hd : s.main = .done) :
    Timeout.timerQuiet (drainTimer s) = true := by
  have key : ∀ b, ((Timeout.reach b).all (fun s => !(s.main == .done) || Timeout.timerQuiet (drainTimer s))) = true := by
    intro b; cases b <;> decide +kernel
  have := invariant_of_closed _ _ _ (C07.reach_closed fnBlocks) (key fnBlocks) s h
  simpa [hd] using this

/-- the async runner's remaining steps after the completion listeners are three unconditional stores -/
theorem async_runner_finishes (s : Future.St) (h : Reachable Future.sys s) (hl : Future.listenersRan s = true) :
    ∃ s1 s2 s3, (s.pc = .closed) ∨
      ((Future.step s .storeResult = some s1 ∨ s1 = s) ∧ (Future.step s1 .storeDone = some s2 ∨ s2 = s1) ∧
       (Future.step s2 .close = some s3 ∨ s3 = s2) ∧ s3.pc = .closed) := by
  -- take each store if it is enabled and stay otherwise: wherever past the listeners the runner is, that ends in `closed`
  have next (s : Future.St) (a : Future.Act) :
      Future.step s a = some ((Future.step s a).getD s) ∨ (Future.step s a).getD s = s := by
    cases Future.step s a <;> simp
  refine ⟨_, _, _, Or.inr ⟨next s .storeResult, next _ .storeDone, next _ .close, ?_⟩⟩
  cases hpc : s.pc
  case running => simp [Future.listenersRan, hpc] at hl
  all_goals simp [Future.step, hpc]

/-! ## HTTP: responses of retried attempts are closed, per-attempt contexts are released -/

def fixedShape : HttpShape := ⟨true, true⟩

/-- invariant of the retry loop of `doRequest` (repaired shape): the only response that can still be open, and the only
merged context still alive, is the one `exec.LastResult()` refers to -/
def HttpInv (s : HttpSt) : Prop :=
  (∀ j ∈ s.openBodies, s.lastResp = some j) ∧ (∀ j ∈ s.liveCtxs, s.lastResp = some j)

/-- whatever is still open belongs to the last response: there is nothing else to close -/
theorem HttpInv.rest {s : HttpSt} (h : HttpInv s) {j : Nat} (hj : s.lastResp = some j) :
    s.openBodies.filter (· != j) = [] ∧ s.liveCtxs.filter (· != j) = [] := by
  have only (l : List Nat) (hl : ∀ x ∈ l, s.lastResp = some x) : l.filter (· != j) = [] :=
    List.filter_eq_nil_iff.2 fun x hx => by simp [Option.some.inj ((hl x hx).symm.trans hj)]
  exact ⟨only _ h.1, only _ h.2⟩

theorem HttpInv.of_none {s : HttpSt} (h : HttpInv s) (hn : s.lastResp = none) : s.openBodies = [] ∧ s.liveCtxs = [] := by
  have only (l : List Nat) (hl : ∀ x ∈ l, s.lastResp = some x) : l = [] :=
    List.eq_nil_iff_forall_not_mem.2 fun x hx => nomatch (hl x hx).symm.trans hn
  exact ⟨only _ h.1, only _ h.2⟩

theorem httpInv_attempt (s : HttpSt) (i : Nat) (r : Bool) (h : HttpInv s) :
    HttpInv (httpAttempt fixedShape s i r) := by
  unfold httpAttempt
  cases hl : s.lastResp with
  | none => obtain ⟨hb, hc⟩ := h.of_none hl; cases r <;> simp [HttpInv, fixedShape, hb, hc]
  | some j => obtain ⟨hb, hc⟩ := h.rest hl; cases r <;> simp [HttpInv, fixedShape, closeBody, hb, hc]

/-- **Every retry pattern**: after any number of attempts with any outcomes, every response the adapter obtained but did not
hand back has been closed and every per-attempt context released; at most the last attempt's are still live (they belong to
the caller, who closes the returned body — which releases the context: `closeBody`). -/
theorem retried_responses_closed (rs : List Bool) (s : HttpSt) (i : Nat) (h : HttpInv s) :
    HttpInv (httpAttempts fixedShape s i rs) := by
  induction rs generalizing s i with
  | nil => exact h
  | cons r rs ih => exact ih _ (i + 1) (httpInv_attempt s i r h)

theorem nothing_left_after_close (rs : List Bool) :
    let s := httpAttempts fixedShape {} 0 rs
    ∀ j, s.lastResp = some j → (closeBody fixedShape s j).openBodies = [] ∧ (closeBody fixedShape s j).liveCtxs = [] := by
  intro s j hj
  have hinv : HttpInv s := retried_responses_closed rs {} 0 (by simp [HttpInv])
  simpa [closeBody, fixedShape] using hinv.rest hj

/-- the source has the repaired shape (FACTS) -/
theorem http_shape_ok :
    Generated.Facts.httpClosesPreviousResponse = true ∧ Generated.Facts.httpReleaseOnBodyClose = true := by decide

/-- a defective shape, as a witness: retried responses stay open (D8) -/
theorem unclosed_retried_witness : (httpAttempts ⟨false, true⟩ {} 0 [true, true, true]).openBodies = [2, 1, 0] := by decide

/-! ## non-vacuity -/

example : (hrun { cap := 1 } [.launch, .launch, .finish 1 true, .leave, .finish 0 true]).gs = [.done, .wantSend] := by decide
example : (wreach true).any (fun s => s.released && s.w == .gone) = true :=
  any_explore_of_run _ 10 _ [.release] (by decide) rfl rfl
example : (httpAttempts fixedShape {} 0 [true, false, true, true]).openBodies = [3] := by decide

end Failsafe.Props.C19
