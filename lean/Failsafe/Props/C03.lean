import Failsafe.Breaker
import Failsafe.Lemmas.Clock
import Failsafe.Lemmas.Ring
import Failsafe.Lemmas.Timed
import Failsafe.Lemmas.Breaker
/-!
# C03 — the circuit breaker follows its documented three-state machine

Statements are about `Failsafe.Breaker.*` (executed by the driver against the real breaker through the virtual clock,
decision kernels tied by `Failsafe.Tie.Breaker`). The failure rate is whatever `pct` (the library's float expression)
reports; theorems that depend on it carry the explicit hypothesis they need.
-/
namespace Failsafe.Props.C03
open Failsafe.Breaker

/-! ## Windows -/

/-- **count window**: the bit ring is exactly the last `cap` recorded results, for every capacity and history length:
occupancy, success count and failure count equal those of `h.drop (h.length - cap)`; the evicted entry is the oldest. -/
theorem ring_refines_lastN (cap : Nat) (hcap : 0 < cap) (h : List Bool) :
    let r := h.foldl setNext (Ring.new cap)
    r.occ = min h.length cap ∧
    r.succ = (h.drop (h.length - cap)).count true ∧
    r.fail = (h.drop (h.length - cap)).count false := by
  have hr := Breaker.ring_refines_lastN cap hcap h
  have h3 : _ ∧ _ ∧ _ := ⟨hr.occ, hr.succ, hr.fail⟩
  rw [foldl_setNext_size] at h3
  exact h3

theorem ring_counts_sum (cap : Nat) (hcap : 0 < cap) (h : List Bool) :
    let r := h.foldl setNext (Ring.new cap)
    r.succ + r.fail = r.occ :=
  (Breaker.ring_refines_lastN cap hcap h).counts

/-- **time window**: for every history of records at non-decreasing slice indices the ten slots hold exactly the per-slice
counts of the slices in `(head-10, head]`, every other slot is empty, and the running summary equals the sum of the slots
(so `summary.remove(bucket)` never underflows). Results older than the period never count; those of the most recent nine
full slices always do. -/
theorem buckets_refine_window (p : Int) (h : Hist) (hs : h.Pairwise (fun a b => a.1 ≤ b.1)) :
    TRep (h.foldl (fun t e => recordAt t e.1 e.2) (Timed.new p)) h :=
  Failsafe.Breaker.buckets_refine_window p h hs

/-! ## Closed state -/

/-- the closed breaker opens on exactly the record after which the threshold holds; otherwise it stays closed and only its
statistics change -/
theorem closed_opens_iff (c : Cfg) (b : B) (now : Int) (v : Bool) (via : Bool) (hb : b.tag = .closed) :
    ((record c b now v via).tag = .opened ↔ closedShouldOpen c (b.stats.record now v) = true) ∧
    (closedShouldOpen c (b.stats.record now v) = false →
      record c b now v via = { b with stats := b.stats.record now v }) := by
  simp only [record, check_closed, hb]
  by_cases h : closedShouldOpen c (b.stats.record now v) = true <;> simp [h, transition_tag]

/-- the documented meaning of the closed threshold -/
theorem closedShouldOpen_iff (c : Cfg) (s : Stats) :
    closedShouldOpen c s = true ↔
      s.exec ≥ c.fet ∧ ((c.frt ≠ 0 ∧ s.frate ≥ c.frt) ∨ (c.frt = 0 ∧ s.fails ≥ c.ft)) := by
  unfold closedShouldOpen
  simp only [Bool.and_eq_true, Bool.or_eq_true, decide_eq_true_eq, bne_iff_ne, beq_iff_eq, ne_eq]

/-- count-based breaker, from construction: it opens on exactly the record after which the last `cap` results contain at
least `failureThreshold` failures -/
theorem closed_count_opens_iff (c : Cfg) (hper : c.period = 0) (hfrt : c.frt = 0) (hfet : c.fet = 0) (hcap : 0 < c.ftc)
    (h : List Bool) (v : Bool) :
    let s := Stats.ring ((h ++ [v]).foldl setNext (Ring.new c.ftc))
    closedShouldOpen c s = true ↔ ((h ++ [v]).drop ((h ++ [v]).length - c.ftc)).count false ≥ c.ft := by
  intro s
  rw [closedShouldOpen_iff, ← (ring_refines_lastN c.ftc hcap (h ++ [v])).2.2, hfrt, hfet]
  exact ⟨fun h => h.2.elim (fun h => absurd rfl h.1) (·.2), fun h => ⟨Nat.zero_le _, .inr ⟨rfl, h⟩⟩⟩

/-! ## Open state -/

/-- while open and before the delay has elapsed nothing is admitted and nothing changes -/
theorem open_admits_nothing_until (c : Cfg) (b : B) (now : Int) (hb : b.tag = .opened) (h : now - b.start < b.delay) :
    tryAcquire c b now = (b, false) := by
  rw [tryAcquire_opened hb, if_neg (Int.not_le.2 h)]

/-- exactly at `elapsed = delay` (and after) the next permit request half-opens the breaker -/
theorem halfopens_at (c : Cfg) (b : B) (now : Int) (hb : b.tag = .opened) (h : now - b.start ≥ b.delay) :
    (tryAcquire c b now).1.tag = .halfOpen ∧
    ((tryAcquire c b now).2 = true ↔ 0 < halfOpenCap c) ∧
    (tryAcquire c b now).1.events = b.events ++ [⟨.opened, .halfOpen, snapshot b.stats⟩] := by
  rw [tryAcquire_opened hb, if_pos h, tryAcquire_halfOpen transition_tag, transition_halfOpen (by rw [hb]; decide), hb]
  by_cases hc : 0 < halfOpenCap c <;> simp [hc]

/-- remaining delay: exact, zero from `elapsed = delay` on, and zero in the other states -/
theorem remainingDelay_eq (b : B) (now : Int) :
    remaining b now = (if b.tag = .opened then max 0 (b.delay - (now - b.start)) else 0) ∧
    (b.tag = .opened → (remaining b now = 0 ↔ now - b.start ≥ b.delay)) := by
  unfold remaining
  cases b.tag
  · exact ⟨rfl, nofun⟩
  · refine ⟨rfl, fun _ => ?_⟩
    show max 0 (b.delay - (now - b.start)) = 0 ↔ _
    omega
  · exact ⟨rfl, nofun⟩

/-- records while open do not change the state, its start or its delay (they land in the previous state's statistics) -/
theorem open_ignores_records (c : Cfg) (b : B) (now : Int) (v via : Bool) (hb : b.tag = .opened) :
    (record c b now v via).tag = .opened ∧ (record c b now v via).start = b.start ∧
    (record c b now v via).delay = b.delay ∧ (record c b now v via).events = b.events := by
  simp [record, check_opened, hb]

/-- the delay in force is the configured delay, or the delay function's value when the opening failure came through an
execution and the function returned one -/
theorem open_delay (c : Cfg) (b : B) (now : Int) (via : Bool) (hb : b.tag ≠ .opened) :
    (transition c b now .opened via).delay = (if via = true ∧ c.delayFn ≠ -1 then c.delayFn else c.delay) ∧
    (transition c b now .opened via).start = now := by
  rw [transition_opened hb]
  refine ⟨?_, rfl⟩
  simp only [Bool.and_eq_true, bne_iff_ne, ne_eq]

/-! ## Half-open state -/

/-- a fresh half-open state -/
def enterHalfOpen (c : Cfg) (b : B) (now : Int) : B := transition c b now .halfOpen

/-- record a list of results while the breaker is whatever it is -/
def recordAll (c : Cfg) (b : B) (now : Int) (rs : List Bool) : B := rs.foldl (fun b v => record c b now v) b

/-- `pct f n + pct (n-f) n ≥ 100`: carried as a hypothesis for the rate-threshold half-open case and validated against the
real function by the harness for every capacity it generates -/
def PctComplement (n : Nat) : Prop := ∀ f, f ≤ n → pct f n + pct (n - f) n ≥ 100

/-- the half-open decision is forced once the trial statistics are full (`le_or_sub_lt` in each regime) -/
theorem halfOpenDecision_full (c : Cfg) (wf : c.WF) (s : Stats) (hocc : s.exec = halfOpenCap c)
    (hsum : s.succs + s.fails = s.exec) (hp : c.st = 0 → c.frt ≠ 0 → PctComplement (halfOpenCap c)) :
    (halfOpenDecision c s).1 = true ∨ (halfOpenDecision c s).2 = true := by
  have hex : s.succs + s.fails = halfOpenCap c := hsum.trans hocc
  by_cases hst : c.st ≠ 0
  · have ⟨h1, h2⟩ := (halfOpenCap_eq wf).1 hst
    rw [halfOpenDecision, if_pos hst]
    exact (le_or_sub_lt h1 (Nat.le_of_eq (hex.trans h2).symm)).imp decide_eq_true decide_eq_true
  · have hc : s.succs + s.fails = closedCap c := hex.trans ((halfOpenCap_eq wf).2 (Decidable.not_not.1 hst))
    rw [halfOpenDecision, if_neg hst]
    by_cases hfrt : c.frt ≠ 0
    · have hpc := hp (Decidable.not_not.1 hst) hfrt s.fails (by rw [← hex]; exact Nat.le_add_left _ _)
      -- `hpc` in terms of the statistics: `pct s.fails s.exec` is `s.frate` and `pct s.succs s.exec` is `s.srate`, by definition
      rw [← hex, Nat.add_sub_cancel, hsum] at hpc
      have hfet : s.exec ≥ c.fet := by rw [← hsum, hc]; exact fet_le_closedCap
      rw [if_pos hfrt, decide_eq_true hfet]
      exact (le_or_sub_lt wf.frt_le hpc).symm.imp decide_eq_true decide_eq_true
    · have hftc := ftc_le_closedCap wf (Decidable.not_not.1 hfrt)
      rw [← hc, Nat.add_comm] at hftc
      rw [if_neg hfrt]
      exact (le_or_sub_lt wf.ft_le_ftc hftc).symm.imp decide_eq_true decide_eq_true

theorem recordAll_tag_ne_halfOpen (c : Cfg) (now : Int) (rs : List Bool) (b : B) (hb : b.tag ≠ .halfOpen) :
    (recordAll c b now rs).tag ≠ .halfOpen :=
  List.foldlRecOn (motive := fun b : B => b.tag ≠ .halfOpen) rs _ hb fun b hb v _ =>
    check_tag_ne_halfOpen (b := { b with stats := b.stats.record now v }) hb

/-- a breaker that is half-open after a list of trial results was so all along: its statistics are the ring of those
results and the last decision was "undecided" -/
theorem stays_halfOpen (c : Cfg) (now : Int) (rs : List Bool) (b : B) (r : Ring) (hb : b.tag = .halfOpen)
    (hs : b.stats = .ring r) (h : (recordAll c b now rs).tag = .halfOpen) :
    (recordAll c b now rs).stats = .ring (rs.foldl setNext r) ∧
    (rs ≠ [] → halfOpenDecision c (.ring (rs.foldl setNext r)) = (false, false)) := by
  induction rs generalizing b r with
  | nil => exact ⟨hs, fun h => absurd rfl h⟩
  | cons v vs ih =>
    have h1 : (record c b now v).tag = .halfOpen :=
      Decidable.byContradiction fun hn => recordAll_tag_ne_halfOpen c now vs _ hn h
    obtain ⟨hd, he⟩ := check_stays_halfOpen (b := { b with stats := b.stats.record now v }) hb h1
    rw [hs] at hd
    have ⟨ih1, ih2⟩ := ih (record c b now v) (setNext r v) h1 (by rw [record, he, hs]; rfl) h
    exact ⟨ih1, fun _ => if hvs : vs = [] then hvs ▸ hd else ih2 hvs⟩

/-- after `capacity` trial results the breaker is no longer half-open: had it stayed, the full trial ring would be undecided -/
theorem halfopen_decided_at_capacity (c : Cfg) (wf : c.WF)
    (hp : c.st = 0 → c.frt ≠ 0 → PctComplement (halfOpenCap c)) (b : B) (hb : b.tag ≠ .halfOpen) (now : Int)
    (rs : List Bool) (hlen : rs.length = halfOpenCap c) :
    (recordAll c (enterHalfOpen c b now) now rs).tag ≠ .halfOpen := by
  intro h
  have hcap := halfOpenCap_pos wf
  have hd := (stays_halfOpen c now rs _ _ transition_tag (congrArg B.stats (transition_halfOpen hb)) h).2
    (List.ne_nil_of_length_pos (hlen ▸ hcap))
  have := halfOpenDecision_full c wf (.ring (rs.foldl setNext (Ring.new (halfOpenCap c))))
    ((ring_refines_lastN _ hcap rs).1.trans (by rw [hlen, Nat.min_self])) (ring_counts_sum _ hcap rs) hp
  rw [hd] at this
  exact this.elim (nomatch ·) (nomatch ·)

/-- **decided within the trial capacity**: from a fresh half-open state, whatever the trial results are, the breaker has
closed or re-opened after at most `capacity` of them (rate thresholds: under `PctComplement`) -/
theorem halfopen_decides_within_capacity (c : Cfg) (wf : c.WF) (hcap : 0 < halfOpenCap c)
    (hp : c.st = 0 → c.frt ≠ 0 → PctComplement (halfOpenCap c)) (b : B) (hb : b.tag ≠ .halfOpen) (now : Int)
    (rs : List Bool) (hlen : rs.length = halfOpenCap c) :
    ∃ k, k ≤ halfOpenCap c ∧ (recordAll c (enterHalfOpen c b now) now (rs.take k)).tag ≠ .halfOpen :=
  ⟨halfOpenCap c, Nat.le_refl _, by
    rw [List.take_of_length_le (Nat.le_of_eq hlen)]
    exact halfopen_decided_at_capacity c wf hp b hb now rs hlen⟩

/-- a trial that is admitted takes one permit; recording its result, whatever it is, gives the permit back while the state
stays half-open -/
theorem trial_permit_roundtrip (c : Cfg) (b : B) (now : Int) (v via : Bool) (hb : b.tag = .halfOpen) (hp : 0 < b.permits) :
    (tryAcquire c b now).2 = true ∧ (tryAcquire c b now).1.permits = b.permits - 1 ∧
    ((record c (tryAcquire c b now).1 now v via).tag = .halfOpen →
      (record c (tryAcquire c b now).1 now v via).permits = b.permits) := by
  rw [tryAcquire_halfOpen hb, if_pos hp]
  refine ⟨rfl, rfl, fun hstay => ?_⟩
  have := (check_stays_halfOpen (b := { b with stats := b.stats.record now v, permits := b.permits - 1 }) hb hstay).2
  exact (congrArg B.permits this).trans (Nat.sub_add_cancel hp)

/-! ## Events -/

/-- the events emitted so far form a connected path from `closed` to the current state, never a self-loop -/
def PathTo : Tag → List Event → Prop
  | tag, [] => tag = .closed
  | tag, evs@(_ :: _) => (evs.getLast?.map (·.new)) = some tag

def Chain : Tag → List Event → Prop
  | _, [] => True
  | from_, e :: es => e.old = from_ ∧ e.old ≠ e.new ∧ Chain e.new es

def endOf : Tag → List Event → Tag
  | from_, [] => from_
  | _, e :: es => endOf e.new es

theorem chain_append (from_ : Tag) (es : List Event) (e : Event) (h : Chain from_ es) (ho : e.old = endOf from_ es)
    (hne : e.old ≠ e.new) : Chain from_ (es ++ [e]) ∧ endOf from_ (es ++ [e]) = e.new := by
  induction es generalizing from_ with
  | nil => exact ⟨⟨ho, hne, trivial⟩, rfl⟩
  | cons x xs ih =>
    have := ih x.new h.2.2 ho
    exact ⟨⟨h.1, h.2.1, this.1⟩, this.2⟩

/-- invariant: the event log is a connected path from `closed` ending in the current state -/
def EvInv (b : B) : Prop := Chain .closed b.events ∧ endOf .closed b.events = b.tag

/-! `EvInv` reads only `tag` and `events`: a change of statistics or permits keeps it. -/

theorem transition_evinv (c : Cfg) (b : B) (now : Int) (new : Tag) (via : Bool) (h : EvInv b) :
    EvInv (transition c b now new via) := by
  by_cases he : b.tag = new
  · rwa [transition_self he]
  · rw [EvInv, transition_events he, transition_tag]
    exact chain_append .closed b.events ⟨b.tag, new, snapshot b.stats⟩ h.1 h.2.symm he

theorem check_evinv (c : Cfg) (b : B) (now : Int) (via : Bool) (h : EvInv b) : EvInv (check c b now via) := by
  cases hb : b.tag
  · rw [check_closed hb]
    exact iteInduction (fun _ => transition_evinv c b now _ via h) fun _ => h
  · rwa [check_opened hb]
  · rw [check_halfOpen hb]
    exact iteInduction (fun _ => transition_evinv c b now _ _ h) fun _ =>
      iteInduction (fun _ => transition_evinv c b now _ via h) fun _ => h

theorem record_evinv (c : Cfg) (b : B) (now : Int) (v via : Bool) (h : EvInv b) : EvInv (record c b now v via) :=
  check_evinv c { b with stats := b.stats.record now v } now via h

theorem tryAcquire_evinv (c : Cfg) (b : B) (now : Int) (h : EvInv b) : EvInv (tryAcquire c b now).1 := by
  have hho : ∀ b : B, b.tag = .halfOpen → EvInv b → EvInv (tryAcquire c b now).1 := fun b hb h => by
    rw [tryAcquire_halfOpen hb]; split <;> exact h
  cases hb : b.tag
  · rwa [tryAcquire_closed hb]
  · rw [tryAcquire_opened hb]; split
    · exact hho _ transition_tag (transition_evinv c b now .halfOpen false h)
    · exact h
  · exact hho b hb h

/-- the public operations of the breaker -/
inductive Op
  | adv (d : Int) | record (v : Bool) (via : Bool) | try_ | open_ | halfOpen_ | close_

def apply (c : Cfg) (bn : B × Int) : Op → B × Int
  | .adv d => (bn.1, bn.2 + d)
  | .record v via => (record c bn.1 bn.2 v via, bn.2)
  | .try_ => ((tryAcquire c bn.1 bn.2).1, bn.2)
  | .open_ => (transition c bn.1 bn.2 .opened, bn.2)
  | .halfOpen_ => (transition c bn.1 bn.2 .halfOpen, bn.2)
  | .close_ => (transition c bn.1 bn.2 .closed, bn.2)

theorem apply_evinv (c : Cfg) (bn : B × Int) (op : Op) (h : EvInv bn.1) : EvInv (apply c bn op).1 := by
  cases op with
  | adv d => exact h
  | record v via => exact record_evinv c bn.1 bn.2 v via h
  | try_ => exact tryAcquire_evinv c bn.1 bn.2 h
  | open_ => exact transition_evinv c bn.1 bn.2 .opened false h
  | halfOpen_ => exact transition_evinv c bn.1 bn.2 .halfOpen false h
  | close_ => exact transition_evinv c bn.1 bn.2 .closed false h

/-- **events form a connected path**: for every history of operations, the state-change events emitted (each carrying the
metrics of the state it leaves, see `Failsafe.Breaker.transition_events`) start at `closed`, each event's old state is the previous event's
new state, no event is a self-loop, and the last event's new state is the current state -/
theorem events_connected_path (c : Cfg) (t0 : Int) (ops : List Op) :
    EvInv (ops.foldl (apply c) (B.new c, t0)).1 :=
  List.foldlRecOn (motive := fun bn : B × Int => EvInv bn.1) ops (apply c) (b := (B.new c, t0)) ⟨trivial, rfl⟩
    fun bn h op _ => apply_evinv c bn op h

/-! ## Non-vacuity -/

example : (⟨2, 0, 3, 0, 0, 1, 2, 50, -1⟩ : Cfg).WF := by decide
example : (⟨1, 40, 1, 4, 100, 0, 0, 50, -1⟩ : Cfg).WF := by decide
/-- two failures out of the last three open a ratio breaker; it stays open for exactly the delay; one trial success closes -/
example :
    let c : Cfg := ⟨2, 0, 3, 0, 0, 1, 1, 50, -1⟩
    let b1 := record c (record c (record c (B.new c) 0 false) 0 true) 0 false
    b1.tag = .opened ∧ (tryAcquire c b1 49).2 = false ∧ (tryAcquire c b1 50).2 = true ∧
    (record c (tryAcquire c b1 50).1 50 true).tag = .closed := by decide

/-! ## Inside policy compositions the breaker is only ever driven at non-decreasing instants

The theorems above take operation sequences at non-decreasing clock values. In the composition model time passes *during* an
execution (an invocation of the wrapped function may advance the clock, `Exec.Item.adv`); the clock a breaker or rate limiter is
consulted with never goes back, for every policy list and every layer of it. -/

/-- **the clock never goes back during an execution**: if every remaining invocation advances the clock by a non-negative amount,
every layer of every stack leaves the clock at or after where it found it (and that hypothesis still holds afterwards, so the
statement chains over successive executions) -/
theorem composition_clock_monotone (fuel : Nat) (ps : List Failsafe.Exec.Policy) (pos : Nat) (r : Failsafe.Exec.Run) (res : Failsafe.PR)
    (r' : Failsafe.Exec.Run) (h : Failsafe.Exec.executeStack fuel pos ps r = some (res, r')) (hnn : Failsafe.Lemmas.Clock.NN r) :
    r.w.now ≤ r'.w.now ∧ Failsafe.Lemmas.Clock.NN r' :=
  Failsafe.Lemmas.Clock.executeStack_clock fuel ps pos r res r' h hnn

/-- the same for whatever a single policy wraps: a layer whose inside never turns the clock back does not either -/
theorem layer_clock_monotone (t0 : Int) (fuel pos : Nat) (p : Failsafe.Exec.Policy) (inner : Failsafe.Exec.Layer)
    (hi : Failsafe.Lemmas.Clock.Preserves t0 inner) : Failsafe.Lemmas.Clock.Preserves t0 (Failsafe.Exec.applyPolicy fuel pos p inner) :=
  Failsafe.Lemmas.Clock.applyPolicy_preserves t0 fuel pos p inner hi

end Failsafe.Props.C03
