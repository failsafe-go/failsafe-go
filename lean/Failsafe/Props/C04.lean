import Failsafe.Conc.BreakerConc
import Failsafe.Lemmas.ExecBodiesLink
/-!
# C04 — an open breaker admits nothing; half-open admits at most its trial capacity

Any number of executions, every interleaving of admissions, recordings and the delay elapsing (`Conc/BreakerConc.lean`). The last
section is about the regenerated bodies of the breaker executor (`kernel_*`) and links the composition model's breaker layer to them.
-/
namespace Failsafe.Props.C04
open Failsafe.Conc.BreakerConc

/-- **while open and before the delay has elapsed no execution is admitted**: the admission step of every execution, however
many race, leaves it rejected (failed with `ErrOpen`; its function is never invoked) and changes nothing else -/
theorem open_rejects_all (s : St) (i : Nat) (hopen : s.tag = .opened) (hdelay : s.elapsed = false) (hidle : s.ths[i]? = some .idle) :
    step s (.enter i) = some { s with ths := s.ths.set i .rejected } := by
  simp [step, hidle, hopen, hdelay]

/-- a rejected execution never runs: nothing is enabled for it any more -/
theorem rejected_never_runs (s : St) (i : Nat) (h : s.ths[i]? = some .rejected) (v : Verdict) :
    step s (.enter i) = none ∧ step s (.finishRun i v) = none ∧ step s (.finishTrial i v) = none := by
  simp [step, h]

def init (cap n : Nat) : St := ⟨cap, .closed, false, 0, List.replicate n .idle⟩

theorem init_inv (cap n : Nat) : Failsafe.Conc.BreakerConc.Inv (init cap n) := by
  intro h; cases h

/-- **while half-open no more executions admitted in that state run concurrently than the trial capacity**: permits available
plus trials in flight equal the capacity in every reachable half-open state (schedules as in the property's caveat) -/
theorem halfopen_inflight_le_capacity (cap n : Nat) (as : List Act) (s' : St)
    (h : as.foldlM (m := Option) step (init cap n) = some s') (hho : s'.tag = .halfOpen) :
    trials s'.ths ≤ s'.cap ∧ s'.permits + trials s'.ths = s'.cap := by
  have := inv_run (init cap n) as (init_inv cap n) s' h hho
  exact ⟨by omega, this⟩

/-- **every admitted trial gives its permit back when its result is recorded, whatever the result**: if the breaker stays
half-open the permit count goes up by one and the trial is no longer in flight -/
theorem trial_returns_permit (s : St) (i : Nat) (hi : s.ths[i]? = some .trial) (hho : s.tag = .halfOpen) :
    step s (.finishTrial i .stay) = some { s with permits := s.permits + 1, ths := s.ths.set i .done } := by
  simp [step, hi, hho]

/-- why the caveat is needed (not a defect: the property excludes it): a record arriving from an execution admitted before the
opening adds a permit in the real breaker — in the sequential breaker model one stale `RecordSuccess` in half-open state raises
the permits above the capacity -/
theorem stale_record_breaks_bound_witness :
    let c : Failsafe.Breaker.Cfg := ⟨1, 0, 1, 0, 0, 3, 3, 0, -1⟩
    let b0 := Failsafe.Breaker.transition c (Failsafe.Breaker.B.new c) 0 .halfOpen
    let b1 := (Failsafe.Breaker.tryAcquire c b0 0).1          -- one trial out: 2 permits left
    let b2 := Failsafe.Breaker.record c b1 0 true             -- a stale success recorded
    b1.permits = 2 ∧ b2.permits = 3 ∧ b2.tag = .halfOpen := by decide

example : (([Act.enter 0, .finishRun 0 .open_, .enter 1, .tick, .enter 2, .enter 3] : List Act).foldlM (m := Option) step (init 1 4)).map
    (fun s => (s.tag, s.permits, s.ths)) = some (.halfOpen, 0, [.done, .rejected, .trial, .rejected]) := by decide

/-! ## On the regenerated bodies of the breaker executor

`ExecBodies.breakerPre / breakerOnSuccess / breakerOnFailure` are the reference definitions the executor's `PreExecute`, `OnSuccess`
and `OnFailure` — regenerated from the source on every run — are proved equal to (`Tie/XAdmit.lean`), for every instantiation of the
breaker's own operations; `breaker_link` shows that the composition model's breaker layer is `PreExecute`, then what is inside, then
`BaseExecutor.PostExecute` with these two. -/
section kernel
open Failsafe.ExecBodies

/-- **a refused admission fails with `ErrOpen` and nothing inside runs** (the executor returns before the inner call); an admitted one
goes on -/
theorem kernel_admission {σ : Type} (ops : AdmitOps σ) (s : σ) :
    (ops.tryV s = false → (breakerPre ops s).1 = some (failureResult Err.opened)) ∧ (ops.tryV s = true → (breakerPre ops s).1 = none) := by
  constructor <;> intro h <;> simp [breakerPre, h]

/-- **every admitted execution's result is recorded exactly once**, after the policy's own listener: a success as a success, a
failure as a failure; the result is handed on unchanged -/
theorem kernel_records_once {σ : Type} (ops : AdmitOps σ) (s : σ) (r : PR) :
    breakerOnSuccess ops s r = ops.recordSuccess (ops.baseOnSuccess s r) ∧
    breakerOnFailure ops s r = (r, ops.recordFailure (ops.baseOnFailure s r) r) := ⟨rfl, rfl⟩

/-- **the composition model's breaker layer is the code's** -/
theorem model_breaker_layer_is_the_codes (fuel pos id : Nat) (h : List Failsafe.Classify.Cond) (inner : Failsafe.Exec.Layer) (r : Failsafe.Exec.Run)
    (c : Failsafe.Breaker.Cfg) (b : Failsafe.Breaker.B) (hb : r.w.breakers[id]? = some (c, b)) :
    Failsafe.Exec.applyPolicy fuel pos (.breaker id h) inner r =
      (let ops := Failsafe.Lemmas.ExecBodiesLink.breakerOps id pos c
       match ExecBodies.breakerPre ops r with
       | (some rej, r1) => some (rej, r1)
       | (none, r1) =>
         match inner r1 with
         | none => none
         | some (res, r2) =>
           some (ExecBodies.postExecute (fun er => Failsafe.Classify.isFailure h er.outcome) (fun s er => ExecBodies.breakerOnFailure ops s er)
                   (fun s er => ExecBodies.breakerOnSuccess ops s er) r2 res)) :=
  Failsafe.Lemmas.ExecBodiesLink.breaker_link fuel pos id h inner r c b hb

end kernel

end Failsafe.Props.C04
