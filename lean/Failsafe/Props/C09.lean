import Failsafe.Conc.Hedge
import Failsafe.Conc.TraceHedge
/-!
# C09 — hedge: bounded attempts, spaced by the delay, one winner, losers cancelled

For every `maxHedges` (any `n = maxHedges + 1`), every order in which attempts complete and every outcome (each `count` action
carries whether that attempt's result matches the cancel conditions), every interleaving with the coordinator.
Reading: a result is *accepted* when the coordinator receives it.
-/
namespace Failsafe.Props.C09
open Failsafe.Conc.Hedge

/-- every reachable state of every schedule satisfies the invariant -/
theorem reachable_inv (n : Nat) (as : List Act) (s : St) (h : as.foldlM (m := Option) step (init n) = some s) : Inv s :=
  inv_run (init n) as (init_inv n) s h

/-- **at most `maxHedges + 1` attempts are started** -/
theorem attempts_le (n : Nat) (as : List Act) (s : St) (h : as.foldlM (m := Option) step (init n) = some s) :
    s.launched ≤ n := by
  have hn : s.n = n :=
    Failsafe.Conc.foldlM_invariant step (·.n = n) (fun _ _ _ h hs => (step_frame hs).1.trans h) (init n) as rfl s h
  rw [← hn]; exact (reachable_inv n as s h).launchedLe

/-- **hedge `k` is never started before the first `k` hedge delays have elapsed**: the number of attempts started never exceeds
the number of delay timers that have fired plus one -/
theorem hedge_k_not_before (n : Nat) (as : List Act) (s : St) (h : as.foldlM (m := Option) step (init n) = some s) :
    s.launched ≤ s.timers + 1 := by
  have := (reachable_inv n as s h).notBefore
  split at this <;> omega

/-- **none is started once a result has been accepted** -/
theorem none_after_accept (s : St) (hr : s.returned = true) : step s .launch = none := by
  simp [step, hr]

/-- **at most one result is ever sent** (so a sender never blocks, whatever the channel's capacity) -/
theorem at_most_one_send (n : Nat) (as : List Act) (s : St) (h : as.foldlM (m := Option) step (init n) = some s) : s.sends ≤ 1 := by
  have := (reachable_inv n as s h).sendsEq
  split at this <;> omega

/-- **the caller receives a result actually produced by one of the attempts**; one that does not match the cancel conditions
only after all `maxHedges + 1` attempts have finished -/
theorem winner_produced_by_attempt (n : Nat) (as : List Act) (s : St) (h : as.foldlM (m := Option) step (init n) = some s)
    (w : Nat) (c : Bool) (hacc : s.accepted = some (w, c)) :
    s.ths[w]? = some .finished ∧ (c = false → s.finishedCount = s.n) :=
  (reachable_inv n as s h).produced (w, c) (Or.inr hacc)

/-- **a result matching the cancel conditions is delivered as soon as it is produced, without waiting for the others**: once the
attempt has been counted, its very next step sends the result, provided nothing was sent before (whether or not it was the final one) -/
theorem cancellable_sent_at_once (s : St) (k : Nat) (f : Bool) (hp : (k, true, f) ∈ s.pending) (hns : s.sent = false) :
    ∃ s', step s (.trySend k true f) = some s' ∧ s'.chan = some (k, true) := by
  simp [step, hp, hns]

/-- counting an attempt's result is what decides whether it is the final one, and puts it in line for the send -/
theorem count_enqueues (s : St) (k : Nat) (c : Bool) (hrun : s.ths[k]? = some .running) :
    ∃ s', step s (.count k c) = some s' ∧ (k, c, decide (s.finishedCount + 1 = s.n)) ∈ s'.pending ∧ s'.finishedCount = s.finishedCount + 1 := by
  simp [step, hrun]

/-- **the window the TRACE tie found**: the count and the send are two steps, so a *final* non-cancellable result can win the
`resultSent` CAS against a cancellable one that was counted before it — the caller is then handed a result that does not match the
cancel conditions, but (theorem `winner_produced_by_attempt`) only one that was delivered after all attempts had finished -/
example : (([Act.launch, .timer, .launch, .count 0 true, .count 1 false, .trySend 1 false true, .trySend 0 true false, .recv] : List Act).foldlM
    (m := Option) step (init 2)).map (fun s => (s.accepted, s.finishedCount)) = some (some (1, false), 2) := by decide

/-- **at the moment it returns every other started attempt has been cancelled and the winning attempt has not** -/
theorem losers_cancelled_winner_not (s s' : St) (h : step s .recv = some s') :
    ∃ w c, s'.accepted = some (w, c) ∧ s'.returned = true ∧ w ∉ s'.cancelled ∧
      ∀ k, k < s.launched → k ≠ w → k ∈ s'.cancelled := by
  obtain ⟨_, x, h1, h2, h3⟩ | ⟨hne, _⟩ := step_return h
  · rw [(step_frame h).2.2.1 nofun] at h3
    exact ⟨x.1, x.2, h1, h2, by simp [h3], fun k hk hne => by simp [h3, hk, hne]⟩
  · exact absurd rfl hne

example : Inv (init 3) := init_inv 3
example : (([Act.launch, .timer, .launch, .count 1 true, .trySend 1 true false, .recv] : List Act).foldlM (m := Option) step (init 3)).map
    (fun s => (s.accepted, s.cancelled, s.launched)) = some (some (1, true), [0], 2) := by decide

/-! ## TRACE tie: recorded runs of the real hedge policy are replayed through the model

`TraceHedge.osys n` is `Conc.Hedge` plus observation points. `Trace.accepts` is exact (`Trace.accepts_iff`): a recorded event list is
accepted iff some interleaving of the model shows it. What an observation implies in every state an accepted trace can be in: -/
section trace
open Failsafe.Conc Failsafe.Conc.TraceHedge

theorem accepted_states_inv (n fuel : Nat) (tr : List Ev) (Y : List TS) (h : Trace.accepts (osys n) fuel tr = some Y) (t : TS) (ht : t ∈ Y) :
    Inv t.core :=
  reach_inv n t (Trace.accepted_state_reachable (osys n) fuel tr Y h t ht)

/-- **the value the caller is handed was produced by an attempt that had finished**, and one that does not match the cancel conditions
only once every one of the `maxHedges + 1` attempts had finished -/
theorem returned_value_was_produced (n : Nat) (t : TS) (hr : Trace.Reach (osys n) t) (k : Nat)
    (hst : TraceHedge.step t (.callerRet k) = some t) :
    t.core.ths[k]? = some .finished ∧ ∀ c, t.core.accepted = some (k, c) → c = false → t.core.finishedCount = t.core.n := by
  obtain ⟨⟨_, hacc⟩, _⟩ := Option.ite_none_right_eq_some.1 hst
  obtain ⟨x, hx, rfl⟩ := Option.map_eq_some_iff.1 hacc
  have hp := (reach_inv n t hr).produced x (Or.inr hx)
  exact ⟨hp.1, fun c hc hcf => hp.2 ((congrArg Prod.snd (Option.some.inj (hx.symm.trans hc))).trans hcf)⟩

/-- **`OnHedge` is called at most `maxHedges` times**: a hedge launch needs an attempt slot that is still idle -/
theorem hedge_event_needs_slot (n : Nat) (t t' : TS) (hr : Trace.Reach (osys n) t) (hst : TraceHedge.step t .launchHedge = some t') :
    t.core.launched < t.core.n ∧ t'.core.launched = t.core.launched + 1 ∧ t.core.returned = false := by
  obtain ⟨_, h⟩ := Option.ite_none_right_eq_some.1 hst
  obtain ⟨s, hs, rfl⟩ := Option.map_eq_some_iff.1 h
  obtain ⟨hg, ⟨⟩⟩ := Option.ite_none_right_eq_some.1 hs
  exact ⟨hg.2.2.1, rfl, Bool.eq_false_iff.2 hg.1⟩

/-- **after the return the readings are forced**: every launched attempt other than the winner reads cancelled, the winner does not -/
theorem readings_after_return (n : Nat) (t : TS) (hr : Trace.Reach (osys n) t) (k : Nat) (b : Bool)
    (hst : TraceHedge.step t (.seeCancelled k) = some t) (hsh : shows t (.seeCancelled k) (.seeCancelled k b) = true) :
    b = t.core.cancelled.contains k := by
  simp only [shows, beq_self_eq_true, Bool.true_and, beq_iff_eq] at hsh
  exact hsh.symm

/-- "attempt k's function has returned": it is finished in the model, or its return has been seen and not yet counted -/
def Returned (t : TS) (k : Nat) : Prop := t.core.ths[k]? = some .finished ∨ ∃ c, (k, c) ∈ t.retd

/-- along any run, an attempt whose function has returned either had already returned at the start or the run shows its `finish` event -/
theorem returned_needs_finish_event (n : Nat) (a b : TS) (tr : List Ev) (h : Trace.Run (osys n) a tr b) (k : Nat)
    (hb : Returned b k) : Returned a k ∨ ∃ c, Ev.finish k c ∈ tr := by
  refine (Trace.Run.event_of_change (Returned · k) (fun x => ∃ c, x = .fnRet k c) (fun s x s' _ hst h1 => ?_) h hb).imp_right
    fun ⟨e, he, _, _, ⟨c, hx⟩, hsh⟩ => ⟨c, ?_⟩
  · -- a step makes attempt `k` returned only by counting it, which needs its entry in `retd`, or by `fnRet k _`, which is visible
    obtain ⟨hcore, hretd, hcnt⟩ := step_cases hst
    rcases h1 with h1 | ⟨c, h1⟩
    · rcases hcore with ⟨_, hc⟩ | ⟨y, hy, hc⟩
      · exact Or.inl (Or.inl (hc ▸ h1))
      · rcases (step_frame hc).2.2.2 k h1 with h2 | ⟨c, rfl⟩
        · exact Or.inl (Or.inl h2)
        · cases x <;> cases hy
          exact Or.inl (Or.inr ⟨c, hcnt _ _ rfl⟩)
    · rcases hretd _ h1 with h2 | rfl
      · exact Or.inl (Or.inr ⟨c, h2⟩)
      · exact Or.inr ⟨rfl, c, rfl⟩
  · subst hx
    have := shows_act hsh
    cases e <;> cases this
    exact he

/-- **on traces**: in every trace the model can show — hence in every recorded run the acceptor accepts — the attempt whose value the
caller is handed has had its function return before (its `finish` event precedes the `ret` event) -/
theorem returned_value_after_its_finish (n : Nat) (t1 t2 : List Ev) (k : Nat) (c : TS)
    (h : Trace.Run (osys n) (osys n).init (t1 ++ Ev.callerRet k :: t2) c) : ∃ cc, Ev.finish k cc ∈ t1 := by
  obtain ⟨s, s', x, hrun, _, _, hsh, hst, _⟩ := Trace.Run.observe t1 h
  obtain rfl := shows_act hsh
  obtain ⟨_, ⟨⟩⟩ := Option.ite_none_right_eq_some.1 hst
  have hfin := (returned_value_was_produced n s (Trace.Run.reach hrun Trace.Reach.init) k hst).1
  refine (returned_needs_finish_event n _ _ t1 hrun k (Or.inl hfin)).resolve_left ?_
  -- initially every attempt is idle and nothing has returned
  rintro (h0 | ⟨cc, h0⟩)
  · rcases List.getElem?_eq_some_iff.1 h0 with ⟨_, h1⟩
    simp [osys, Hedge.init] at h1
  · cases h0

/-- once the call has returned, the cancelled set is exactly the started attempts other than the accepted one -/
def CancOk (s : St) : Prop :=
  s.returned = true → ∃ x, s.accepted = some x ∧ s.cancelled = (List.range s.launched).filter (· ≠ x.1)

/-- after the return nothing the model can do changes what was accepted or how many attempts were started -/
theorem after_return_step (s s' : St) (a : Hedge.Act) (hi : Inv s) (hr : s.returned = true) (hs : Hedge.step s a = some s') :
    s'.returned = true ∧ s'.accepted = s.accepted ∧ s'.launched = s.launched ∧ s'.cancelled = s.cancelled := by
  rcases step_return hs with ⟨rfl, _⟩ | ⟨_, h1, h2, h3, h4⟩
  · -- nothing is in the channel once a result has been accepted
    simp [Hedge.step, (hi.accSent (hi.retAcc hr)).2] at hs
  · refine ⟨h1.trans hr, h2, (step_frame hs).2.2.1 fun hl => ?_, h3⟩
    rw [h4 hl] at hr; cases hr

theorem cancOk_step (s s' : St) (a : Hedge.Act) (hi : Inv s) (h : CancOk s) (hs : Hedge.step s a = some s') : CancOk s' := by
  rcases step_return hs with ⟨_, x, hx⟩ | ⟨_, h1, _⟩
  · exact fun _ => ⟨x, hx.1, hx.2.2⟩
  · intro hr
    obtain ⟨_, q2, q3, q4⟩ := after_return_step s s' a hi (h1 ▸ hr) hs
    obtain ⟨x, hx1, hx2⟩ := h (h1 ▸ hr)
    exact ⟨x, q2.trans hx1, by rw [q4, q3, hx2]⟩

theorem reach_cancOk (n : Nat) (t : TS) (h : Trace.Reach (osys n) t) : CancOk t.core :=
  (reach_induct n CancOk nofun (fun s x s' hi h hs => cancOk_step s s' x hi h hs) t h).2

/-- along any run that starts after the return, the accepted value and the number of started attempts stay what they were -/
theorem after_return_run (n : Nat) (a b : TS) (tr : List Ev) (h : Trace.Run (osys n) a tr b) (ha : Trace.Reach (osys n) a)
    (hr : a.core.returned = true) : b.core.returned = true ∧ b.core.accepted = a.core.accepted := by
  refine (Trace.Run.invariant (fun s => Trace.Reach (osys n) s ∧ s.core.returned = true ∧ s.core.accepted = a.core.accepted)
    (fun s x s' ⟨hs, hp⟩ hm hst => ⟨Trace.Reach.step s s' x hs hm hst, ?_⟩) h ⟨ha, hr, rfl⟩).2
  rcases (step_cases hst).1 with ⟨_, h1⟩ | ⟨y, _, h1⟩
  · rw [h1]; exact hp
  · obtain ⟨q1, q2, _, _⟩ := after_return_step _ _ y (reach_inv n s hs) hp.1 h1
    exact ⟨q1, q2.trans hp.2⟩

/-- **on traces**: in every trace the model can show — hence in every recorded hedged run the acceptor accepts — once the caller has been
handed attempt `w`'s value, every later `IsCanceled()` reading of a started attempt is `true` for every attempt other than `w` and `false`
for `w` itself: all outstanding attempts are cancelled, the accepted one is not -/
theorem readings_after_return_on_traces (n : Nat) (t1 t2 t3 : List Ev) (w k : Nat) (b : Bool) (c : TS)
    (h : Trace.Run (osys n) (osys n).init (t1 ++ Ev.callerRet w :: (t2 ++ Ev.seeCancelled k b :: t3)) c) : b = decide (k ≠ w) := by
  obtain ⟨s, s', x, hrun_s, _, _, hsh, hst, hrest⟩ := Trace.Run.observe t1 h
  obtain ⟨u, u', y, hrun_u, _, _, hsh2, hst2, _⟩ := Trace.Run.observe t2 hrest
  obtain rfl := shows_act hsh
  obtain rfl := shows_act hsh2
  obtain ⟨⟨hret, hw⟩, ⟨⟩⟩ := Option.ite_none_right_eq_some.1 hst
  obtain ⟨⟨_, hlt⟩, ⟨⟩⟩ := Option.ite_none_right_eq_some.1 hst2
  have hreach := Trace.Run.reach hrun_s Trace.Reach.init
  have hreach_u := Trace.Run.reach hrun_u hreach
  -- the caller has returned with `w` accepted at `s`; that stays so up to `u`, where the cancelled set is all started attempts but `w`
  obtain ⟨hru, hacc⟩ := after_return_run n _ _ _ hrun_u hreach hret
  obtain ⟨xx, hx1, hx2⟩ := reach_cancOk n u hreach_u hru
  have hxw : xx.1 = w := by rw [← hacc, hx1] at hw; exact Option.some.inj hw
  rw [readings_after_return n u hreach_u k b hst2 hsh2, hx2, hxw]
  by_cases hkw : k = w <;> simp [hkw, hlt]

/-- non-vacuity, decided by running the acceptor (maxHedges = 1): the hedge wins and the first attempt is cancelled — accepted; the
caller handed the value of an attempt that has not finished, a third attempt, or a winner that reads cancelled — rejected -/
example : (Trace.accepts (osys 2) 30 [.enter 0, .hedge, .enter 1, .finish 1 true, .callerRet 1, .seeCancelled 0 true, .seeCancelled 1 false, .finish 0 false]).map (·.isEmpty) = some false := by decide +kernel
/-- the order in which functions return is not the order in which the library processes their results: found by the soak -/
example : (Trace.accepts (osys 2) 30 [.enter 0, .hedge, .enter 1, .finish 0 true, .finish 1 true, .callerRet 1, .seeCancelled 0 true, .seeCancelled 1 false]).map (·.isEmpty) = some false := by decide +kernel
example : (Trace.accepts (osys 2) 30 [.enter 0, .hedge, .enter 1, .callerRet 1]).map (·.isEmpty) = some true := by decide +kernel
example : (Trace.accepts (osys 2) 30 [.enter 0, .hedge, .hedge]).map (·.isEmpty) = some true := by decide +kernel
example : (Trace.accepts (osys 2) 30 [.enter 0, .hedge, .enter 1, .finish 1 true, .callerRet 1, .seeCancelled 1 true]).map (·.isEmpty) = some true := by decide +kernel

end trace

end Failsafe.Props.C09
