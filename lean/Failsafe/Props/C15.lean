import Failsafe.Conc.Future
import Failsafe.Conc.TraceFuture
/-!
# C15 — async results follow the future protocol and agree with sync execution
-/
namespace Failsafe.Props.C15
open Failsafe.Conc Failsafe.Conc.Future

/-- the candidate set is closed and the protocol holds on it: one evaluation of `reach` -/
theorem reach_good : (closedB sys reach && reach.all protocol) = true := by decide +kernel

theorem reach_closed : closedB sys reach = true := (Bool.and_eq_true_iff.1 reach_good).1

/-- **the protocol**, in every reachable state of every interleaving of the producer with any number of `Cancel` calls (readers
do not change the state, so what holds of every state holds for every reader at every instant): `Done` is closed at most once;
closed ⇒ `IsDone`; `IsDone` ⇒ the result is available and the completion listeners have run; the result cell is written
exactly once, so all readers get the same values, however many call concurrently -/
theorem future_protocol (s : St) (h : Reachable sys s) : protocol s = true :=
  invariant_of_closed sys reach protocol reach_closed (Bool.and_eq_true_iff.1 reach_good).2 s h

theorem protocol_cases (s : St) (h : Reachable sys s) :
    s.closes ≤ 1 ∧ (s.closes = 0 ∨ s.doneFlag = true ∧ s.resultVersion = 1 ∧ listenersRan s = true) ∧
      (s.doneFlag = false ∨ s.resultVersion = 1 ∧ listenersRan s = true) ∧ s.resultVersion ≤ 1 := by
  have := future_protocol s h
  simp only [protocol, Bool.and_eq_true, Bool.or_eq_true, Bool.not_eq_true', beq_iff_eq, decide_eq_true_eq, and_assoc] at this
  exact ⟨this.1, this.2.1, this.2.2.1, this.2.2.2.1⟩

theorem closed_once (s : St) (h : Reachable sys s) : s.closes ≤ 1 := (protocol_cases s h).1

theorem isDone_imp_result (s : St) (h : Reachable sys s) (hd : s.doneFlag = true) : s.resultVersion = 1 ∧ listenersRan s = true :=
  (protocol_cases s h).2.2.1.resolve_left (by simp [hd])

theorem closed_imp_isDone (s : St) (h : Reachable sys s) (hc : s.closes = 1) : s.doneFlag = true :=
  ((protocol_cases s h).2.1.resolve_left (by omega)).1

/-- once written the result never changes: every later state reports the same version (stability of `Get`) -/
theorem get_stable (s s' : St) (a : Act) (hs : step s a = some s') (hv : s.resultVersion = 1) (hr : Reachable sys s) :
    s'.resultVersion = 1 := by
  -- no step lowers the version, and it never exceeds 1
  have hmono : s.resultVersion ≤ s'.resultVersion := by
    cases a <;> obtain ⟨_, ⟨⟩⟩ := Option.ite_none_right_eq_some.1 hs <;> simp
  exact Nat.le_antisymm (protocol_cases s' (.step s s' a hr (TraceFuture.mem_acts a) hs)).2.2.2 (hv ▸ hmono)

/-! **The values are those of the equivalent synchronous execution**: not a theorem of this file. Both entry points call the
same `execute` on a fresh execution (FACTS `effects/executor:executor.executeSync`, `bodies/executor:executor.executeAsync`), the
composition model `Exec.execute` has no notion of sync / async, and the differential check runs every compose case through
either entry point at random and compares it with that one model. -/

example : reach.any (fun s => s.pc == .closed && s.cancelCalls == 2) = true :=
  any_explore_of_run _ 20 _ [.cancel, .cancel, .finishListeners, .storeResult, .storeDone, .close] (by decide) rfl rfl
example : reach.length = 15 := by decide +kernel

/-! ## TRACE tie: recorded runs of real asynchronous executions are replayed through the model

`TraceFuture.osys` is `Conc.Future` plus the readers' observation points. `Trace.accepts` is exact (`Trace.accepts_iff`); the
theorems below say what a reader's observation implies in every state an accepted trace can be in. -/
section trace
open Failsafe.Conc.TraceFuture

theorem accepted_states_reachable (fuel : Nat) (tr : List Ev) (Y : List St) (h : Trace.accepts osys fuel tr = some Y) (t : St) (ht : t ∈ Y) :
    Reachable Future.sys t :=
  reach_core t (Trace.accepted_state_reachable osys fuel tr Y h t ht)

/-- **a reader that gets `IsDone() = true` is later than the completion listeners and the result** -/
theorem seen_isDone_imp (s : St) (hr : Trace.Reach osys s) (h : shows s .seeIsDone (.seeIsDone true) = true) :
    s.resultVersion = 1 ∧ listenersRan s = true := by
  simp only [shows, beq_iff_eq] at h
  exact isDone_imp_result s (reach_core s hr) h

/-- **a reader that finds `Done()` closed also gets `IsDone() = true`, the result, and the listeners have run** -/
theorem seen_closed_imp (s : St) (hr : Trace.Reach osys s) (h : shows s .seeClosed (.seeClosed true) = true) :
    s.doneFlag = true ∧ s.resultVersion = 1 ∧ listenersRan s = true := by
  simp only [shows, beq_iff_eq, decide_eq_true_eq] at h
  exact (protocol_cases s (reach_core s hr)).2.1.resolve_left (by omega)

/-- `Get()` only returns once the channel is closed, and then the result is there -/
theorem got_imp (s : St) (hr : Trace.Reach osys s) (hst : TraceFuture.step s .got = some s) :
    s.doneFlag = true ∧ s.resultVersion = 1 := by
  obtain ⟨hc, _⟩ := Option.ite_none_right_eq_some.1 hst
  obtain ⟨hd, hv, _⟩ := seen_closed_imp s hr (by simpa [shows] using hc)
  exact ⟨hd, hv⟩

/-- along any run of the traced system, the completion listeners can only have run if the run shows the `listener` event -/
theorem listener_event_of_ran (a b : St) (tr : List Ev) (h : Trace.Run osys a tr b) (ha : listenersRan a = false)
    (hb : listenersRan b = true) : Ev.listener ∈ tr := by
  refine (Trace.Run.event_of_change (listenersRan · = true) (· = .core .finishListeners) (fun s x s' _ hst h1 => ?_) h hb).elim
    (fun h1 => by rw [ha] at h1; cases h1) fun ⟨e, he, _, _, hx, hsh⟩ => ?_
  · -- only `finishListeners` leaves `pc = running`, and it is visible
    rcases step_cases hst with ⟨c, rfl, hc⟩ | ⟨_, rfl⟩
    · cases c with
      | finishListeners => exact Or.inr ⟨rfl, rfl⟩
      | cancel => obtain ⟨_, ⟨⟩⟩ := Option.ite_none_right_eq_some.1 hc; exact Or.inl h1
      | _ => obtain ⟨hp, _⟩ := Option.ite_none_right_eq_some.1 hc; exact Or.inl (by rw [listenersRan, hp]; rfl)
    · exact Or.inl h1
  · subst hx
    have := shows_act hsh
    cases e <;> first | exact he | cases this

/-- the three observations that, by the protocol, are later than the completion listeners -/
def late : Ev → Bool
  | .seeIsDone true | .seeClosed true | .got => true
  | _ => false

/-- **on traces**: in every trace the model can show — hence in every recorded run the acceptor accepts — `IsDone() = true`, `Done()`
closed and a returned `Get()` each come after the completion listener's event -/
theorem late_after_listener (e : Ev) (he : late e = true) (t1 t2 : List Ev) (c : St)
    (h : Trace.Run osys osys.init (t1 ++ e :: t2) c) : Ev.listener ∈ t1 := by
  obtain ⟨s, s', x, hrun, _, _, hsh, hst, _⟩ := Trace.Run.observe t1 h
  have hreach := Trace.Run.reach hrun Trace.Reach.init
  obtain rfl := shows_act hsh
  -- the state in which the reader looked is reachable: the protocol says the listeners have run there
  have hran : listenersRan s = true := by
    match e, he with
    | .seeIsDone true, _ => exact (seen_isDone_imp s hreach hsh).2
    | .seeClosed true, _ => exact (seen_closed_imp s hreach hsh).2.2
    | .got, _ =>
      obtain ⟨_, ⟨⟩⟩ := Option.ite_none_right_eq_some.1 hst
      exact (isDone_imp_result s (reach_core s hreach) (got_imp s hreach hst).1).2
  exact listener_event_of_ran osys.init s t1 hrun rfl hran

theorem isDone_true_after_listener (t1 t2 : List Ev) (c : St) (h : Trace.Run osys osys.init (t1 ++ Ev.seeIsDone true :: t2) c) :
    Ev.listener ∈ t1 := late_after_listener _ rfl t1 t2 c h

/-- **on traces**: an observation that `Done()` is closed comes after the completion listener's event -/
theorem closed_after_listener (t1 t2 : List Ev) (c : St) (h : Trace.Run osys osys.init (t1 ++ Ev.seeClosed true :: t2) c) :
    Ev.listener ∈ t1 := late_after_listener _ rfl t1 t2 c h

/-- **on traces**: a `Get()` that returned comes after the completion listener's event -/
theorem got_after_listener (t1 t2 : List Ev) (c : St) (h : Trace.Run osys osys.init (t1 ++ Ev.got :: t2) c) :
    Ev.listener ∈ t1 := late_after_listener _ rfl t1 t2 c h

/-- non-vacuity, decided by running the acceptor: a protocol-conforming trace is accepted; `IsDone() = true` before the completion
listener, or `Done()` closed while `IsDone()` is still false afterwards, is rejected -/
example : (Trace.accepts osys 20 [.seeIsDone false, .listener, .seeClosed false, .seeIsDone true, .seeClosed true, .got]).map (·.isEmpty) = some false := by decide +kernel
example : (Trace.accepts osys 20 [.seeIsDone true, .listener]).map (·.isEmpty) = some true := by decide +kernel
example : (Trace.accepts osys 20 [.listener, .seeClosed true, .seeIsDone false]).map (·.isEmpty) = some true := by decide +kernel

end trace

end Failsafe.Props.C15
