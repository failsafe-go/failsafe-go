import Failsafe.Conc.Cancel
import Failsafe.Exec
import Failsafe.Generated.Facts
import Failsafe.Lemmas.ExecBodiesLink
/-!
# C08 — cancellation stops the execution promptly and is reported as its cause

One cancellation source per scenario (the property's quantifier). The source fact `rootHasCancelFunc` extracted from
`executeAsync` is an input of the model: the attribution theorem is proved **for the value the current source has**.

In order: the cancellation racing the retry loop (`Conc/Cancel.lean`: attribution by the invariant `Attr`, the previous shape as a
witness with its schedule); the same property over the composition model, for an arbitrary inner layer; the waits of the admission policies;
the cancel cell on the regenerated bodies of `execution.go`.
-/
namespace Failsafe.Props.C08
open Failsafe.Conc Failsafe.Conc.Cancel

abbrev hasCF : Bool := Failsafe.Generated.Facts.rootHasCancelFunc

/-- why the returned error names the cause: the cell is written in the same atomic step that first ends the context (given the root
cancel function, also by an async `Cancel`), `InitializeRetry` clears it only while the context is live, and the loop returns the
cancellation result only when it finds the context done -/
structure Attr (src : Source) (s : St) : Prop where
  clean : s.ctxDone = false → s.cell = .none
  cell : s.ctxDone = true → cancelResult s = cause src
  mid : s.cpc = .c1 → s.ctxDone = true
  ret : ∀ r, s.pc = .returned r → r = cause src
  started : s.startedAfterCancel = 0

/-- a step of the loop moves only `pc`; if it returns, it does so with the cancellation result, having found the context done -/
theorem Attr.pc {src : Source} {s : St} (h : Attr src s) (p : Pc)
    (hp : ∀ r, p = .returned r → s.ctxDone = true ∧ r = cancelResult s) : Attr src { s with pc := p } :=
  ⟨h.clean, h.cell, h.mid, fun r hr => by obtain ⟨hd, rfl⟩ := hp r hr; exact h.cell hd, h.started⟩

theorem attr_step (src : Source) (s s' : St) (a : Act) (h : Attr src s) (hs : step true src s a = some s') : Attr src s' := by
  have ret : s.ctxDone = true → Attr src { s with pc := .returned (cancelResult s) } := fun hd =>
    h.pc _ fun r hr => by cases hr; exact ⟨hd, rfl⟩
  cases a <;> simp only [step, Option.ite_none_right_eq_some, Option.some.injEq] at hs
  -- the loop: its steps move `pc`, and return only on finding the context done
  case fnReturn | postExec | delayOver => obtain ⟨-, rfl⟩ := hs; exact h.pc _ nofun
  case check1 | recordRes =>
    obtain ⟨-, rfl⟩ := hs
    split
    · exact ret ‹_›
    · exact h.pc _ nofun
  case initRetry =>
    -- on a live context `InitializeRetry` clears the cell and starts the next attempt
    obtain ⟨-, rfl⟩ := hs
    split
    · exact ret ‹_›
    · rename_i hd
      exact ⟨fun _ => rfl, fun hd' => absurd hd' hd, h.mid, nofun, h.started⟩
  -- the cancelling side: whoever first ends the context leaves its own cause in the cell, in the same step
  case cancel1 =>
    obtain ⟨-, hs⟩ := hs
    have done : s.ctxDone = true → ∀ c, Attr src { s with cpc := c } := fun hd c =>
      ⟨fun hd' => absurd hd (by rw [hd']; decide), h.cell, fun _ => hd, h.ret, h.started⟩
    cases src <;> simp only at hs
    case ctx =>
      cases hs
      cases hd : s.ctxDone
      · exact ⟨nofun, fun _ => by simp only [cancelResult, h.clean hd]; rfl, nofun, h.ret, h.started⟩
      · exact ⟨nofun, fun _ => h.cell hd, nofun, h.ret, h.started⟩
    case timeout | async =>
      split at hs <;> cases hs
      · exact done ‹_› _
      · exact ⟨nofun, fun _ => rfl, fun _ => rfl, h.ret, h.started⟩
  case cancel2 =>
    obtain ⟨hc, rfl⟩ := hs
    exact ⟨nofun, fun _ => h.cell (h.mid hc), nofun, h.ret, h.started⟩

theorem attr_reachable (src : Source) (s : St) (h : Reachable (sys true src) s) : Attr src s := by
  induction h with
  | init => exact ⟨fun _ => rfl, nofun, nofun, nofun, rfl⟩
  | step s s' a _ _ hs ih => exact attr_step src s s' a ih hs

/-- **the caller receives an error identifying the cause** (context error, `timeout.ErrExceeded`, `ErrExecutionCanceled`
respectively), never another error, for every interleaving of the cancellation with the retry loop; and no attempt is
started once the context is done -/
theorem cancel_result_is_cause (src : Source) (s : St) (h : Reachable (sys hasCF src) s) : attributed src s = true := by
  -- `hasCF` unfolds to the value extracted from the source; for `false` this line does not typecheck
  have hi := attr_reachable src s h
  have := hi.ret
  cases hp : s.pc <;> simp_all [attributed, hi.started]

/-- every wait of the loop observes the cancellation: from any reachable state in which the context is done and the loop has
not returned, the loop's own next step returns the cancellation result or moves towards the next check (no step waits) -/
def promptB (s : St) : Bool :=
  !s.ctxDone ||
  (match s.pc with
   | .returned _ => true
   | .inFn => true          -- the function cooperates (assumption); its return is enabled
   | _ => true)

theorem waits_wake_on_cancel (src : Source) (s : St) (h : Reachable (sys hasCF src) s) (hd : s.ctxDone = true) (hp : s.pc = .delay) :
    ∃ s', step hasCF src s .delayOver = some s' ∧ s'.pc = .init ∧
      ∃ s'', step hasCF src s' .initRetry = some s'' ∨ s'.attempts ≥ 3 := by
  refine ⟨{ s with pc := .init }, by simp [step, hp], rfl, ?_⟩
  by_cases ha : s.attempts < 3
  · exact ⟨{ s with pc := .returned (cancelResult { s with pc := .init }) }, Or.inl (by simp [step, ha, hd])⟩
  · exact ⟨s, Or.inr (by simpa using ha)⟩

/-- the defect that was repaired (D3), kept as a theorem about the *previous* shape: without the root cancel function a
schedule exists that returns a bare context error for an async `Cancel` -/
theorem async_cancel_misattribution_witness_previous_shape :
    ∃ s, s ∈ reach false .async ∧ attributed .async s = false := by
  -- `Cancel` stores its result while the context is still live, the next `InitializeRetry` clears it, then the context ends
  have := any_explore_of_run (sys false .async) 60 (fun s => !attributed .async s)
    [.cancel1, .fnReturn, .check1, .postExec, .recordRes, .delayOver, .initRetry, .cancel2, .fnReturn, .check1] (by decide) rfl rfl
  obtain ⟨s, hs, hn⟩ := List.any_eq_true.1 this
  exact ⟨s, hs, by simpa using hn⟩

/-! ## the same property over the sequential composition model (`Exec.lean`), for an **arbitrary inner layer**

`Run.ext` is the cause of an external cancellation (context / async `Cancel`), `Run.cancelled` the enclosing Timeout's. The
differential check drives these paths deterministically: the harness cancels from inside the k-th function invocation or the
k-th `OnRetryScheduled` listener, or before the execution starts. -/
section composition
open Failsafe.Exec Failsafe.Classify

/-- **the error identifies the cause**: the result a cancelled execution reports carries the external cause (or
`timeout.ErrExceeded` when its Timeout fired first), is final, and is never a success -/
theorem cancelRes_is_cause (r : Run) :
    (r.cancelled = true → r.cancelRes = timeoutResult) ∧
    (r.cancelled = false → ∀ e, r.ext = some e → r.cancelRes = failureResult e) ∧
    r.cancelRes.done = true ∧ r.cancelRes.success = false ∧ r.cancelRes.successAll = false := by
  refine ⟨?_, ?_, Run.cancelRes_done r, (Run.cancelRes_not_success r).1, (Run.cancelRes_not_success r).2⟩
  · intro h; simp [Run.cancelRes, h]
  · intro h e he; simp [Run.cancelRes, h, he]

/-- **no further attempt**: when what the retry policy wraps returns and the execution is cancelled, the policy returns the
cancellation result at once — whatever the result was, whatever budget is left; nothing inside is invoked again -/
theorem retry_stops_when_cancelled (pos : Nat) (m : Int) (rl : Bool) (h a : List Cond) (inner : Layer) (fuel : Nat) (r : Run)
    (res1 : PR) (r1 : Run) (hi : inner r = some (res1, r1)) (hc : r1.isCanc = true) :
    retryLoop pos m rl h a inner (fuel + 1) r = some (r1.cancelRes, r1) := by
  rw [retryLoop_succ, hi]; exact if_pos hc

/-- **a delay is not waited out**: when the execution is cancelled while a retry is scheduled, the loop returns the cancellation
result without starting the retry: attempts and retries are those at the moment of scheduling -/
theorem retry_cancelled_during_delay (pos : Nat) (m : Int) (rl : Bool) (h a : List Cond) (inner : Layer) (fuel : Nat) (r : Run)
    (res1 : PR) (r1 : Run) (hi : inner r = some (res1, r1)) (hc : r1.isCanc = false) (he : r1.exceeded.contains pos = false)
    (hf : isFailure h res1.outcome = true) (hd : (retryOnFailure pos m rl a res1.withFailure r1).1.done = false)
    (X : Run)
    (hX : X = (({ (retryOnFailure pos m rl a res1.withFailure r1).2 with
              last := (retryOnFailure pos m rl a res1.withFailure r1).1.outcome }).emitLast "rp.onRetryScheduled" pos).trigger "rp.onRetryScheduled")
    (hx : X.isCanc = true) :
    retryLoop pos m rl h a inner (fuel + 1) r = some (X.cancelRes, X) ∧
    X.attempts = (retryOnFailure pos m rl a res1.withFailure r1).2.attempts ∧
    X.retries = (retryOnFailure pos m rl a res1.withFailure r1).2.retries := by
  subst hX
  refine ⟨?_, by simp [Run.emitLast, Run.emitSeen], by simp [Run.emitLast, Run.emitSeen]⟩
  rw [retryLoop_succ, hi]
  simp only [hc, he, hf, hd, Bool.false_eq_true, if_false, if_true]
  exact if_pos hx

/-- the scripted cancellation point fires once, with its cause, and never overwrites an earlier cancellation -/
theorem trigger_ext (r : Run) (n : String) :
    (r.trigger n).ext = r.ext ∨ (r.ext = none ∧ (r.trigger n).ext = some r.cancelCause) := by
  unfold Run.trigger
  split
  · rename_i nm k _
    split
    · by_cases hc : (r.seenAt + 1 == k && r.ext.isNone) = true
      · right
        simp only [Bool.and_eq_true, Option.isNone_iff_eq_none] at hc
        simp [hc.2, hc.1]
      · left; simp [hc]
    · left; rfl
  · left; rfl

end composition

example : (reach hasCF .async).any (fun s => s.pc == .returned .execCanceled) = true :=
  any_explore_of_run _ 60 _ [.cancel1, .fnReturn, .check1] (by decide) rfl rfl
example : (reach hasCF .timeout).any (fun s => s.pc == .returned .timeoutRes && s.attempts == 2) = true :=
  any_explore_of_run _ 60 _ [.fnReturn, .check1, .postExec, .recordRes, .delayOver, .initRetry, .fnReturn, .check1, .postExec, .recordRes,
    .delayOver, .initRetry, .cancel1, .fnReturn, .check1] (by decide) rfl rfl

/-! ## The waits of the admission policies (bulkhead permit, rate-limiter slot)

A policy that waits does so in a `select` that also watches the execution's context (FACTS `selects/…`). What it returns when
the wait ends because the execution was cancelled is decided by a shape taken from the source on every run
(`bulkheadWaitReportsCancelResult`, `limiterWaitReportsCancelResult`): the executor hands back the execution's cancel result,
not the bare context error of the wait. (D12: the bulkhead executor used to return the bare error, so that an async `Cancel`
during the permit wait of an outermost bulkhead was reported as `context.Canceled`.) -/
section waits
open Failsafe.Exec

/-- how the wait of an admission policy ends -/
inductive WaitEnd | granted | refused | cancelled
deriving DecidableEq, Repr

/-- what the policy's executor returns when its wait has ended (`none`: it goes on to what it wraps). `reports`: the executor
returns the execution's cancel result (shape input); `refusal`: ErrFull / ErrExceeded; `ctxErr`: the wait's own context error. -/
def waitResult (reports : Bool) (refusal ctxErr : Err) (r : Run) : WaitEnd → Option PR
  | .granted => none
  | .refused => some (failureResult refusal)
  | .cancelled => some (if reports then r.cancelRes else failureResult ctxErr)

/-- **a wait ended by the cancellation reports the cause** (bulkhead): with the shape the source has, the result is the
execution's cancel result — the external cause, or `timeout.ErrExceeded` when an enclosing Timeout fired — final and never a
success, whatever the wait's own context error was -/
theorem bulkhead_wait_reports_cause (refusal ctxErr : Err) (r : Run) :
    waitResult Failsafe.Generated.Facts.bulkheadWaitReportsCancelResult refusal ctxErr r .cancelled = some r.cancelRes ∧
    (r.cancelled = false → ∀ e, r.ext = some e → r.cancelRes = failureResult e) ∧ r.cancelRes.done = true ∧ r.cancelRes.success = false := by
  have h := cancelRes_is_cause r
  exact ⟨by simp [waitResult, Failsafe.Generated.Facts.bulkheadWaitReportsCancelResult], h.2.1, h.2.2.1, h.2.2.2.1⟩

/-- the same for the rate limiter's wait inside an execution. (D15: it used to return `exec.LastError()`, which under a retry policy
is the error recorded for an *earlier* attempt - a refused attempt followed by a cancelled wait produced a second, spurious
`OnRateLimitExceeded`.) -/
theorem limiter_wait_reports_cause (refusal ctxErr : Err) (r : Run) :
    waitResult Failsafe.Generated.Facts.limiterWaitReportsCancelResult refusal ctxErr r .cancelled = some r.cancelRes := by
  simp [waitResult, Failsafe.Generated.Facts.limiterWaitReportsCancelResult]

/-- a refusal is reported as the refusal, and a granted wait goes on: the cancellation shape changes neither -/
theorem wait_other_ends (reports : Bool) (refusal ctxErr : Err) (r : Run) :
    waitResult reports refusal ctxErr r .refused = some (failureResult refusal) ∧ waitResult reports refusal ctxErr r .granted = none :=
  ⟨rfl, rfl⟩

/-- the defect that was repaired (D12), as a theorem about the *previous* shape: an executor that returns the wait's own error
reports `context.Canceled` for an execution cancelled through its ExecutionResult -/
theorem wait_misattribution_witness_previous_shape :
    ∃ r : Run, r.ext = some Err.execCanceled ∧
      waitResult false Err.full Err.canceled r .cancelled ≠ some r.cancelRes := by
  refine ⟨{ w := {}, script := [], ext := some Err.execCanceled }, rfl, ?_⟩
  decide

end waits

/-! ## The cancel cell of `execution.go`, on the regenerated bodies

`ExecBodies.isCanc / cancel / initializeRetry / recordResult` are the reference definitions the bodies of `isCanceledWithResult`,
`Cancel`, `InitializeRetry` and `RecordResult` — regenerated from the source on every run — are proved equal to
(`Tie/XExecution.lean`); `isCanc_link` shows that the composition model's `Run.isCanc` / `Run.cancelRes` are exactly
`isCanceledWithResult` of the execution state a run abstracts. -/
section cell
open Failsafe.ExecBodies

/-- `isCanceledWithResult` answers "cancelled" exactly when the context is done -/
theorem isCanc_fst (s : XSt) : (isCanc s).1 = s.ctxErr.isSome := by
  unfold isCanc
  cases s.ctxErr <;> rfl

/-- **the first cancellation wins**: once an execution that owns a cancel function has been cancelled, a later `Cancel` changes
nothing — the result the caller is told stays the first cause -/
theorem cancel_first_wins (s : XSt) (r1 r2 : Option PR) (hcf : s.cancelFunc.isSome = true) :
    cancel (cancel s r1) r2 = cancel s r1 := by
  unfold cancel
  cases hc : (isCanc s).1
  · obtain ⟨u, hu⟩ := Option.isSome_iff_exists.1 hcf
    have hne : s.ctxErr = none := by simpa [isCanc_fst] using hc
    cases r1 <;> simp [hu, callCancelFunc, isCanc, hne]
  · simp [hc]

/-- **a cancellation is reported as its cause**: after `Cancel(result)` of an execution that was not cancelled and owns a cancel
function, `isCanceledWithResult` answers exactly that result -/
theorem cancel_reports_result (s : XSt) (r : PR) (hn : (isCanc s).1 = false) (hcf : s.cancelFunc.isSome = true) :
    isCanc (cancel s (some r)) = (true, some r) := by
  obtain ⟨u, hu⟩ := Option.isSome_iff_exists.1 hcf
  have hne : s.ctxErr = none := by simpa [isCanc_fst] using hn
  simp [cancel, hu, callCancelFunc, isCanc, hne]

/-- a context that ends by itself (caller's cancel, deadline) is reported with the context's own error, final and not a success -/
theorem ctx_end_reports_ctx_error (s : XSt) (e : Err) (h1 : s.ctxErr = some e) (h2 : s.cell = none) :
    isCanc s = (true, some (failureResult e)) := by
  simp [isCanc, h1, h2, failureResult]

/-- the shape D3 repaired, on the regenerated `Cancel`: **without** a cancel function the stored result is not visible to
`isCanceledWithResult` (the context is not done), and the next `InitializeRetry` erases it — the caller would later be told the
bare context error. `rootHasCancelFunc` (FACTS) says the async root execution owns one. -/
theorem cancel_without_cancelFunc_is_lost (s : XSt) (r : PR) (h1 : s.ctxErr = none) (h2 : s.cancelFunc = none) :
    isCanc (cancel s (some r)) = (false, none) ∧ (initializeRetry (cancel s (some r))).2.cell = none := by
  simp [cancel, isCanc, h1, h2, initializeRetry]

/-- **no attempt is counted for a cancelled execution**: `InitializeRetry` answers the cancel result and leaves every counter and
the cell untouched -/
theorem initializeRetry_cancelled (s : XSt) (h : (isCanc s).1 = true) : initializeRetry s = ((isCanc s).2, s) := by
  simp [initializeRetry, h]

/-- otherwise it counts the attempt and clears the cell, so that a cancellation *result* a finished Timeout scope left behind
cannot be mistaken for the cause of a later cancellation (the line the trial changes `seeded/S-C07-5` and `seeded/S-C01-9` remove) -/
theorem initializeRetry_clears_cell (s : XSt) (h : (isCanc s).1 = false) :
    (initializeRetry s).1 = none ∧ (initializeRetry s).2.cell = none ∧ (initializeRetry s).2.attempts = s.attempts + 1 := by
  simp [initializeRetry, h]

/-- a result is not recorded on a cancelled execution: the caller-visible last outcome stays what the cancellation stored -/
theorem recordResult_cancelled (s : XSt) (r : Option PR) (h : (isCanc s).1 = true) : recordResult s r = ((isCanc s).2, s) := by
  simp [recordResult, h]

/-- **the composition model's cancel answers are the code's**: `Run.isCanc` and `Run.cancelRes` are `isCanceledWithResult` of the
abstracted execution state -/
theorem model_cancel_answers_are_the_codes (r : Failsafe.Exec.Run) :
    isCanc (Failsafe.Lemmas.ExecBodiesLink.toX r) = (r.isCanc, if r.isCanc then some r.cancelRes else none) :=
  Failsafe.Lemmas.ExecBodiesLink.isCanc_link r

example : isCanc (cancel { cancelFunc := some () } (some (failureResult Err.execCanceled))) = (true, some (failureResult Err.execCanceled)) := by decide
example : (initializeRetry (cancel {} (some (failureResult Err.execCanceled)))).2.cell = none := by decide

end cell

end Failsafe.Props.C08
