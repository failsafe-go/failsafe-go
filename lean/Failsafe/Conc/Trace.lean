/-!
# Trace acceptance: may the interleaving model show this sequence of observable events?

A system with *silent* and *visible* actions; a visible action taken in a state can show certain events (`shows`). A real run of
the library, instrumented only at points user code can reach (function bodies, listeners, the caller after the call returns),
yields a totally ordered list of events. `accepts` decides whether **some** run of the model shows exactly that list, by the
subset construction: the set of states the model may be in after the events so far, closed under silent steps.

`accepts_iff` is the tie's guarantee in both directions: a state is in the answer **iff** a run of the model from the initial
state shows the trace and ends there. So an empty answer means *no* schedule of the model explains what the implementation did
(no false alarm from the search), and any property proved for all reachable states holds after every accepted trace.
The silent closure is computed with fuel and then *checked* to be closed; if the check fails the answer is `none` ("undecided"),
never a wrong verdict.
-/
namespace Failsafe.Conc.Trace

structure OSys (σ α ε : Type) where
  init : σ
  acts : List α
  step : σ → α → Option σ
  silent : α → Bool
  shows : σ → α → ε → Bool     -- the visible action `a`, taken in state `s`, can be observed as event `e`

variable {σ α ε : Type}

/-- runs: silent steps anywhere, one visible step per event -/
inductive Run (S : OSys σ α ε) : σ → List ε → σ → Prop
  | nil (s : σ) : Run S s [] s
  | silent (s s' s'' : σ) (a : α) (tr : List ε) :
      a ∈ S.acts → S.silent a = true → S.step s a = some s' → Run S s' tr s'' → Run S s tr s''
  | vis (s s' s'' : σ) (a : α) (e : ε) (tr : List ε) :
      a ∈ S.acts → S.silent a = false → S.shows s a e = true → S.step s a = some s' → Run S s' tr s'' → Run S s (e :: tr) s''

/-- silent runs -/
inductive Tau (S : OSys σ α ε) : σ → σ → Prop
  | refl (s : σ) : Tau S s s
  | step (s s' s'' : σ) (a : α) : a ∈ S.acts → S.silent a = true → S.step s a = some s' → Tau S s' s'' → Tau S s s''

theorem Tau.single {S : OSys σ α ε} {s s' : σ} {a : α} (hm : a ∈ S.acts) (hs : S.silent a = true) (hst : S.step s a = some s') :
    Tau S s s' := Tau.step s s' s' a hm hs hst (Tau.refl s')

theorem Run.of_tau {S : OSys σ α ε} {a b c : σ} {tr : List ε} (h1 : Tau S a b) (h2 : Run S b tr c) : Run S a tr c := by
  induction h1 with
  | refl _ => exact h2
  | step s s' _ x hm hs hst _ ih => exact Run.silent s s' c x tr hm hs hst (ih h2)

theorem Run.nil_tau {S : OSys σ α ε} {a b : σ} {tr : List ε} (h : Run S a tr b) (hn : tr = []) : Tau S a b := by
  induction h with
  | nil s => exact Tau.refl s
  | silent s s' s'' x tr hm hs hst _ ih => exact Tau.step s s' s'' x hm hs hst (ih hn)
  | vis _ _ _ _ _ _ _ _ _ _ _ _ => cases hn

/-- **observation**: a run showing `t1 ++ e :: t2` reaches, by a run showing `t1`, a state `s` in which a visible action shows `e`,
and goes on from that action's result. Every "event `e` implies … about what came before" theorem starts here. -/
theorem Run.observe {S : OSys σ α ε} {a c : σ} (t1 : List ε) {e : ε} {t2 : List ε} (h : Run S a (t1 ++ e :: t2) c) :
    ∃ s s' x, Run S a t1 s ∧ x ∈ S.acts ∧ S.silent x = false ∧ S.shows s x e = true ∧ S.step s x = some s' ∧ Run S s' t2 c := by
  generalize hl : t1 ++ e :: t2 = l at h
  induction h generalizing t1 with
  | nil _ => cases t1 <;> cases hl
  | silent s s' s'' x tr hm hs hst _ ih =>
    obtain ⟨u, u', y, h1, h2⟩ := ih t1 hl
    exact ⟨u, u', y, Run.silent s s' u x t1 hm hs hst h1, h2⟩
  | vis s s' s'' x e' tr hm hs hsh hst hrest ih =>
    cases t1 with
    | nil => cases hl; exact ⟨s, s', x, Run.nil s, hm, hs, hsh, hst, hrest⟩
    | cons e0 t1 =>
      cases hl
      obtain ⟨u, u', y, h1, h2⟩ := ih t1 rfl
      exact ⟨u, u', y, Run.vis s s' u x e' t1 hm hs hsh hst h1, h2⟩

/-- **a state quantity that counts events**: if exactly the actions in `A` add one to `f`, they are visible, and an event that is shown
satisfies `p` just when the action showing it is in `A`, then along every run `f` grows by the number of events satisfying `p` -/
theorem Run.count {S : OSys σ α ε} (f : σ → Nat) (A : α → Prop) [DecidablePred A] (p : ε → Bool)
    (hstep : ∀ s x s', x ∈ S.acts → S.step s x = some s' → f s' = f s + (if A x then 1 else 0))
    (hvis : ∀ x, A x → S.silent x = false) (hshow : ∀ s x e, S.shows s x e = true → (p e = true ↔ A x))
    {a b : σ} {tr : List ε} (h : Run S a tr b) : f b = f a + tr.countP p := by
  induction h with
  | nil _ => rfl
  | silent s s' _ x _ hm hs hst _ ih => rw [ih, hstep s x s' hm hst, if_neg fun hA => by rw [hvis x hA] at hs; cases hs]; rfl
  | vis s s' _ x e _ hm hs hsh hst _ ih =>
    rw [ih, hstep s x s' hm hst, List.countP_cons, Nat.add_assoc, Nat.add_comm (List.countP p _)]
    simp only [hshow s x e hsh]

/-- **a state property that only a visible action can establish**: if a step makes `P` true only when it is a visible action in `A`, then
a run that ends in `P` started in `P` or shows an event of such an action -/
theorem Run.event_of_change {S : OSys σ α ε} (P : σ → Prop) (A : α → Prop)
    (hstep : ∀ s x s', x ∈ S.acts → S.step s x = some s' → P s' → P s ∨ S.silent x = false ∧ A x)
    {a b : σ} {tr : List ε} (h : Run S a tr b) (hb : P b) : P a ∨ ∃ e ∈ tr, ∃ s x, A x ∧ S.shows s x e = true := by
  induction h with
  | nil _ => exact Or.inl hb
  | silent s s' _ x _ hm hs hst _ ih =>
    exact (ih hb).imp_left fun h1 => (hstep s x s' hm hst h1).resolve_right fun ⟨hv, _⟩ => by rw [hs] at hv; cases hv
  | vis s s' _ x e _ hm hs hsh hst _ ih =>
    rcases ih hb with h1 | ⟨e', he', hq⟩
    · exact (hstep s x s' hm hst h1).imp_right fun ⟨_, hA⟩ => ⟨e, List.mem_cons_self, s, x, hA, hsh⟩
    · exact Or.inr ⟨e', List.mem_cons_of_mem _ he', hq⟩

/-- every state a run can be in is reachable by the model's step relation: whatever is proved for all reachable states (an
inductive invariant, a kernel-decided closed set) holds after every accepted trace -/
inductive Reach (S : OSys σ α ε) : σ → Prop
  | init : Reach S S.init
  | step (s s' : σ) (a : α) : Reach S s → a ∈ S.acts → S.step s a = some s' → Reach S s'

theorem Run.invariant {S : OSys σ α ε} (P : σ → Prop) (hstep : ∀ s x s', P s → x ∈ S.acts → S.step s x = some s' → P s')
    {a b : σ} {tr : List ε} (h : Run S a tr b) (hp : P a) : P b := by
  induction h with
  | nil _ => exact hp
  | silent s s' _ x _ hm _ hst _ ih => exact ih (hstep s x s' hp hm hst)
  | vis s s' _ x _ _ hm _ _ hst _ ih => exact ih (hstep s x s' hp hm hst)

theorem Run.reach {S : OSys σ α ε} {a b : σ} {tr : List ε} (h : Run S a tr b) (ha : Reach S a) : Reach S b :=
  Run.invariant (Reach S) (fun s x s' hs hm hst => Reach.step s s' x hs hm hst) h ha

def tauSuccs (S : OSys σ α ε) (s : σ) : List σ := S.acts.filterMap (fun a => if S.silent a then S.step s a else none)

theorem mem_tauSuccs {S : OSys σ α ε} {s t : σ} :
    t ∈ tauSuccs S s ↔ ∃ a ∈ S.acts, S.silent a = true ∧ S.step s a = some t := by
  simp only [tauSuccs, List.mem_filterMap, Option.ite_none_right_eq_some]

/-- the states reachable from `X` by one visible action showing `e` -/
def after (S : OSys σ α ε) (X : List σ) (e : ε) : List σ :=
  X.flatMap (fun s => S.acts.filterMap (fun a => if !S.silent a && S.shows s a e then S.step s a else none))

theorem mem_after {S : OSys σ α ε} {X : List σ} {e : ε} {t : σ} :
    t ∈ after S X e ↔ ∃ s ∈ X, ∃ a ∈ S.acts, S.silent a = false ∧ S.shows s a e = true ∧ S.step s a = some t := by
  simp only [after, List.mem_flatMap, List.mem_filterMap, Option.ite_none_right_eq_some, Bool.and_eq_true, Bool.not_eq_true', and_assoc]

variable [DecidableEq σ]

def tauClosedB (S : OSys σ α ε) (X : List σ) : Bool := X.all (fun s => (tauSuccs S s).all (fun t => X.contains t))

def closure (S : OSys σ α ε) : Nat → List σ → List σ
  | 0, X => X
  | n + 1, X =>
    let new := ((X.flatMap (tauSuccs S)).filter (fun t => !X.contains t)).eraseDups
    if new.isEmpty then X else closure S n (X ++ new)

def stepSet (S : OSys σ α ε) (fuel : Nat) (X : List σ) (e : ε) : Option (List σ) :=
  let Y := closure S fuel (after S X e)
  if tauClosedB S Y then some Y else none

def acceptsFrom (S : OSys σ α ε) (fuel : Nat) : List σ → List ε → Option (List σ)
  | X, [] => some X
  | X, e :: tr => match stepSet S fuel X e with
    | none => none
    | some Y => acceptsFrom S fuel Y tr

/-- the set of model states after a trace; `none` = the silent closure did not converge within the fuel (undecided) -/
def accepts (S : OSys σ α ε) (fuel : Nat) (tr : List ε) : Option (List σ) :=
  let X0 := closure S fuel [S.init]
  if tauClosedB S X0 then acceptsFrom S fuel X0 tr else none

theorem closure_subset (S : OSys σ α ε) (n : Nat) (X : List σ) : ∀ s, s ∈ X → s ∈ closure S n X := by
  induction n generalizing X with
  | zero => intro s h; exact h
  | succ n ih =>
    intro s h
    simp only [closure]
    split
    · exact h
    · exact ih _ s (List.mem_append_left _ h)

theorem closure_sound (S : OSys σ α ε) (n : Nat) (X : List σ) : ∀ t, t ∈ closure S n X → ∃ s ∈ X, Tau S s t := by
  induction n generalizing X with
  | zero => intro t h; exact ⟨t, h, Tau.refl t⟩
  | succ n ih =>
    intro t h
    simp only [closure] at h
    split at h
    · exact ⟨t, h, Tau.refl t⟩
    · obtain ⟨s, hs, hst⟩ := ih _ t h
      rcases List.mem_append.1 hs with hs | hs
      · exact ⟨s, hs, hst⟩
      · have hs' := (List.mem_eraseDups.1 hs)
        simp only [List.mem_filter, List.mem_flatMap] at hs'
        obtain ⟨⟨u, hu, hsu⟩, _⟩ := hs'
        obtain ⟨a, ha, hsil, hstep⟩ := mem_tauSuccs.1 hsu
        exact ⟨u, hu, Tau.step u s t a ha hsil hstep hst⟩

theorem closed_tau (S : OSys σ α ε) (X : List σ) (hc : tauClosedB S X = true) {s t : σ} (hs : s ∈ X) (h : Tau S s t) : t ∈ X := by
  simp only [tauClosedB, List.all_eq_true, List.contains_iff_mem] at hc
  induction h with
  | refl _ => exact hs
  | step s s' _ a hm hsil hst _ ih => exact ih (hc s hs s' (mem_tauSuccs.2 ⟨a, hm, hsil, hst⟩))

/-- from a silently closed set: a run showing `e :: tr` is silent steps (which stay in the set), the visible step that shows `e` (into
`after`), and a run showing `tr` from there (`Run.observe`), which is what one round of the acceptor follows -/
theorem acceptsFrom_iff (S : OSys σ α ε) (fuel : Nat) (tr : List ε) :
    ∀ (X Y : List σ), tauClosedB S X = true → acceptsFrom S fuel X tr = some Y →
      ∀ t, t ∈ Y ↔ ∃ s ∈ X, Run S s tr t := by
  induction tr with
  | nil =>
    rintro X _ hX ⟨⟩ t
    exact ⟨fun ht => ⟨t, ht, Run.nil t⟩, fun ⟨s, hs, hr⟩ => closed_tau S X hX hs (Run.nil_tau hr rfl)⟩
  | cons e tr ih =>
    intro X Y hX h t
    by_cases hY : tauClosedB S (closure S fuel (after S X e)) = true
    · simp only [acceptsFrom, stepSet, hY, ↓reduceIte] at h
      rw [ih _ Y hY h t]
      constructor
      · rintro ⟨u, hu, hr⟩
        obtain ⟨u0, hu0, hτ⟩ := closure_sound S fuel _ u hu
        obtain ⟨s, hs, a, ha, hsil, hsh, hst⟩ := mem_after.1 hu0
        exact ⟨s, hs, Run.vis s u0 t a e tr ha hsil hsh hst (Run.of_tau hτ hr)⟩
      · rintro ⟨s, hs, hr⟩
        obtain ⟨u, u', a, hτ, ha, hsil, hsh, hst, hrest⟩ := Run.observe [] hr
        have hu : u ∈ X := closed_tau S X hX hs (Run.nil_tau hτ rfl)
        exact ⟨u', closure_subset S fuel _ u' (mem_after.2 ⟨u, hu, a, ha, hsil, hsh, hst⟩), hrest⟩
    · simp [acceptsFrom, stepSet, hY] at h

/-- **exactness of the acceptor**: whenever it answers, a state is in the answer iff some run of the model from the initial state
shows exactly the trace and ends in that state -/
theorem accepts_iff (S : OSys σ α ε) (fuel : Nat) (tr : List ε) (Y : List σ) (h : accepts S fuel tr = some Y) :
    ∀ t, t ∈ Y ↔ Run S S.init tr t := by
  simp only [accepts] at h
  split at h
  · rename_i hc
    intro t
    rw [acceptsFrom_iff S fuel tr _ Y hc h t]
    constructor
    · rintro ⟨s, hs, hr⟩
      obtain ⟨s0, hs0, ht⟩ := closure_sound S fuel _ s hs
      cases List.mem_singleton.1 hs0
      exact Run.of_tau ht hr
    · exact fun hr => ⟨S.init, closure_subset S fuel _ _ (List.mem_singleton.2 rfl), hr⟩
  · cases h

/-- the verdict "rejected" is exact: an empty answer means no run of the model shows the trace -/
theorem rejected_iff (S : OSys σ α ε) (fuel : Nat) (tr : List ε) (h : accepts S fuel tr = some []) :
    ¬ ∃ t, Run S S.init tr t := by
  rintro ⟨t, ht⟩
  exact List.not_mem_nil ((accepts_iff S fuel tr [] h t).2 ht)

theorem accepted_state_reachable (S : OSys σ α ε) (fuel : Nat) (tr : List ε) (Y : List σ) (h : accepts S fuel tr = some Y)
    (t : σ) (ht : t ∈ Y) : Reach S t :=
  Run.reach ((accepts_iff S fuel tr Y h t).1 ht) Reach.init

end Failsafe.Conc.Trace
