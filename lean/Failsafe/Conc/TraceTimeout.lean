import Failsafe.Conc.Trace
import Failsafe.Conc.Timeout
/-!
# Observable traces of one Timeout application (TRACE tie of C07)

The harness runs a real `Timeout` around an instrumented function and stamps, with one global atomic counter, what user code
can see: the function reading `IsCanceled()` while it runs, the function about to return, the `OnTimeoutExceeded` listener,
the caller after the call returned, and one final sample of (listener calls, `IsCanceled`) after the timer side has gone quiet.
Every stamp also records whether the time limit had certainly **not** elapsed yet (`early`: wall clock since before the call
started `<` the limit, read *after* the stamp's counter value was taken).

The model is `Conc.Timeout` (the CAS race between the timer callback and the function returning) with these observation
points added as visible actions that do not change the state. Everything else (the clock tick, both CAS, `Stop`, `Cancel`,
`PostExecute`) is silent. `Trace.accepts` then decides whether some interleaving of the model shows exactly the recorded events.
-/
namespace Failsafe.Conc.TraceTimeout
open Failsafe.Conc.Timeout

inductive Ev
  | seeCancelled (c : Bool) (early : Bool)      -- the function read `IsCanceled() = c`
  | fnRet (early : Bool)                         -- the function is about to return
  | listener (early : Bool)                      -- `OnTimeoutExceeded` was called
  | callerRet (r : Ret) (early : Bool)           -- the call returned: the inner result / `ErrExceeded`
  | final (k : Nat) (c : Bool)                   -- after the timer side went quiet: listener calls so far, `IsCanceled()`
deriving DecidableEq, Repr

inductive Act
  | core (a : Timeout.Act)
  | seeCancelled | callerRet | final
deriving DecidableEq, Repr

def step (s : St) : Act → Option St
  | .core a => Timeout.step s a
  | .seeCancelled => if s.main = .running then some s else none       -- only while the function runs
  | .callerRet => if s.main = .done then some s else none
  | .final => if s.main = .done ∧ timerQuiet s = true then some s else none

def silent : Act → Bool
  | .core .fnReturn => false
  | .core .cbListener => false
  | .core _ => true
  | _ => false

/-- an event stamped `early` can only be shown while the model's limit has not elapsed -/
def earlyOk (s : St) (early : Bool) : Bool := !early || !s.elapsed

def shows (s : St) : Act → Ev → Bool
  | .core .fnReturn, .fnRet e => earlyOk s e
  | .core .cbListener, .listener e => earlyOk s e
  | .seeCancelled, .seeCancelled c e => (s.cancelled == c) && earlyOk s e
  | .callerRet, .callerRet r e => (s.ret == r) && earlyOk s e
  | .final, .final k c => (s.listener == k) && (s.cancelled == c)
  | _, _ => false

def acts : List Act :=
  [.core .tick, .core .fnReturn, .core .mainCAS, .core .mainPost, .core .fire, .core .cbCAS, .core .cbListener, .core .cbCancel,
   .seeCancelled, .callerRet, .final]

/-- the function may return at any time (a function that waits for its cancellation is one of those runs) -/
def osys : Trace.OSys St Act Ev :=
  { init := { fnBlocks := false }, acts := acts, step := step, silent := silent, shows := shows }

/-- a step of the traced system is a step of `Conc.Timeout` or an observation, which leaves the state alone -/
theorem step_cases {s s' : St} {x : Act} (h : step s x = some s') :
    (∃ a, x = .core a ∧ Timeout.step s a = some s') ∨ ((∀ a, x ≠ .core a) ∧ s' = s) := by
  cases x with
  | core a => exact Or.inl ⟨a, rfl, h⟩
  | _ =>
    obtain ⟨_, ⟨⟩⟩ := Option.ite_none_right_eq_some.1 h
    exact Or.inr ⟨nofun, rfl⟩

def actOf : Ev → Act
  | .fnRet _ => .core .fnReturn
  | .listener _ => .core .cbListener
  | .seeCancelled _ _ => .seeCancelled
  | .callerRet _ _ => .callerRet
  | .final _ _ => .final

theorem shows_act {s : St} {x : Act} {e : Ev} (h : shows s x e = true) : x = actOf e := by
  unfold shows at h
  -- `shows` is a table of (action, event) rows: on a row the action is the event's own, off the table `h` is `false = true`
  split at h <;> first | rfl | cases h

theorem mem_acts (a : Timeout.Act) (b : Bool) : a ∈ (sys b).acts := by cases a <;> simp [sys]

/-- the observation points add no behaviour: every state the traced system reaches is a reachable state of `Conc.Timeout` -/
theorem reach_core (s : St) (h : Trace.Reach osys s) : Reachable (sys false) s := by
  induction h with
  | init => exact Reachable.init
  | step s s' x _ _ hst ih =>
    rcases step_cases hst with ⟨a, _, ha⟩ | ⟨_, rfl⟩
    · exact Reachable.step s s' a ih (mem_acts a false) ha
    · exact ih

def parseBool (s : String) : Bool := s == "1" || s == "t"

def parseEv (s : String) : Option Ev :=
  match s.splitOn ":" with
  | ["see", c, e] => some (.seeCancelled (parseBool c) (parseBool e))
  | ["fnret", e] => some (.fnRet (parseBool e))
  | ["listener", e] => some (.listener (parseBool e))
  | ["ret", "inner", e] => some (.callerRet .inner (parseBool e))
  | ["ret", "exceeded", e] => some (.callerRet .exceeded (parseBool e))
  | ["final", k, c] => some (.final (k.toNat?.getD 99) (parseBool c))
  | _ => none

end Failsafe.Conc.TraceTimeout
