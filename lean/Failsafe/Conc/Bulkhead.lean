import Failsafe.Conc.Finite
/-!
# Bulkhead interleaving model (bulkhead/bulkhead.go, bulkheadexecutor.go)

Any number of executions (threads) and standalone callers. `held` is the occupancy of the semaphore channel. The actions are
the branches of the select statements of `AcquirePermitWithMaxWait` (FACTS `selects/bulkhead.*`: only the semaphore-send
branches return nil), the executor's `PostExecute` (releases exactly once, returns its argument) and the standalone API.
-/
namespace Failsafe.Conc.Bulkhead

inductive T | idle | waiting | holding | doneOk | doneFull | doneCanceled
deriving DecidableEq, Repr

structure St where
  cap  : Nat
  held : Nat          -- channel occupancy
  ext  : Nat          -- permits held through the standalone API
  ths  : List T
deriving Repr

inductive Act
  | tryFast (i : Nat)       -- first select: permit free → holding, else → waiting (or full if maxWait = 0)
  | fastFull (i : Nat)
  | acquireSlow (i : Nat)   -- second select, send succeeds
  | timeout (i : Nat)       -- timer fires → ErrFull
  | cancel (i : Nat)        -- ctx done → ctx error
  | finish (i : Nat)        -- inner returns; PostExecute releases
  | extAcquire | extRelease

def holders (l : List T) : Nat := l.count T.holding

def step (s : St) : Act → Option St
  | .tryFast i =>
    if s.ths[i]? = some .idle then
      if s.held < s.cap then some { s with held := s.held + 1, ths := s.ths.set i .holding }
      else some { s with ths := s.ths.set i .waiting }
    else none
  | .fastFull i =>
    if s.ths[i]? = some .idle ∧ ¬ s.held < s.cap then some { s with ths := s.ths.set i .doneFull } else none
  | .acquireSlow i =>
    if s.ths[i]? = some .waiting ∧ s.held < s.cap then
      some { s with held := s.held + 1, ths := s.ths.set i .holding } else none
  | .timeout i => if s.ths[i]? = some .waiting then some { s with ths := s.ths.set i .doneFull } else none
  | .cancel i =>
    if s.ths[i]? = some .waiting ∨ s.ths[i]? = some .idle then some { s with ths := s.ths.set i .doneCanceled } else none
  | .finish i =>
    if s.ths[i]? = some .holding then some { s with held := s.held - 1, ths := s.ths.set i .doneOk } else none
  | .extAcquire => if s.held < s.cap then some { s with held := s.held + 1, ext := s.ext + 1 } else none
  | .extRelease => if 0 < s.ext then some { s with held := s.held - 1, ext := s.ext - 1 } else none

def Inv (s : St) : Prop := s.held = holders s.ths + s.ext ∧ s.held ≤ s.cap

/-- thread `i` moves from `a` to `b` and the occupancy of the channel moves with `holding` -/
theorem Inv.move {s : St} (h : Inv s) {i : Nat} {a b : T} (hi : s.ths[i]? = some a) {held : Nat}
    (hheld : held = s.held + (if b = .holding then 1 else 0) - (if a = .holding then 1 else 0)) (hcap : held ≤ s.cap) :
    Inv { s with held := held, ths := s.ths.set i b } := by
  have := count_set hi b .holding
  have := h.1
  refine ⟨?_, hcap⟩
  simp only [holders] at *
  omega

theorem inv_step (s s' : St) (a : Act) (h : Inv s) (hs : step s a = some s') : Inv s' := by
  -- the `rfl`s below evaluate the two `if`s of `Inv.move`
  cases a <;> simp only [step, Option.ite_none_right_eq_some, Option.some.injEq] at hs
  case tryFast i =>
    obtain ⟨hi, hs⟩ := hs
    split at hs <;> cases hs
    · exact h.move hi rfl (by omega)
    · exact h.move hi rfl h.2
  case fastFull i => obtain ⟨hi, rfl⟩ := hs; exact h.move hi.1 rfl h.2
  case acquireSlow i => obtain ⟨hi, rfl⟩ := hs; exact h.move hi.1 rfl hi.2
  case timeout i => obtain ⟨hi, rfl⟩ := hs; exact h.move hi rfl h.2
  case cancel i => obtain ⟨hi | hi, rfl⟩ := hs <;> exact h.move hi rfl h.2
  case finish i => obtain ⟨hi, rfl⟩ := hs; exact h.move hi rfl (Nat.le_trans (Nat.sub_le _ _) h.2)
  case extAcquire => obtain ⟨hlt, rfl⟩ := hs; exact ⟨by have := h.1; dsimp only; omega, hlt⟩
  case extRelease =>
    obtain ⟨_, rfl⟩ := hs
    exact ⟨by have := h.1; dsimp only; omega, Nat.le_trans (Nat.sub_le _ _) h.2⟩

/-- every reachable state, any schedule, any number of threads -/
theorem inv_run (s : St) (as : List Act) (h : Inv s) :
    ∀ s', as.foldlM (m := Option) step s = some s' → Inv s' :=
  foldlM_invariant step Inv inv_step s as h

end Failsafe.Conc.Bulkhead
