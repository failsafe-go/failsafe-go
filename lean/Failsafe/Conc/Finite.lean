/-!
# Interleaving systems: finite ones checked inside the kernel, and what the unbounded ones share

A system has an initial state, a finite list of actions and a partial step function. `Reachable` is the inductive closure.
`explore` computes a candidate set by breadth-first search; `closedB` (decided by the kernel) shows the candidate contains
the initial state and is closed under every action, hence contains every reachable state (`reachable_mem`), so any
property decided on the candidate holds for **every reachable state of every interleaving**. In the other direction the search
misses nothing within its fuel (`explore_complete`), so a state is shown to be among the explored ones by the schedule that
reaches it (`any_explore_of_run`) rather than by running the search.

The models with any number of threads (`Conc/Hedge`, `Bulkhead`, `BreakerConc`) are not swept: a schedule there is a `foldlM` of the
step function and an invariant is carried along it (`foldlM_invariant`). Their step functions have the form
`if guard then some s' else none` per action, so the proofs of the `inv_step` kind open by reading `step s a = some s'` as "the
guard holds and `s'` is the state written" (`Option.ite_none_right_eq_some`). Their threads sit in a list of which a step overwrites
one slot; the last part of the file says what that does to counts and to the other slots.
-/
namespace Failsafe.Conc

structure Sys (σ α : Type) where
  init : σ
  acts : List α
  step : σ → α → Option σ

inductive Reachable {σ α : Type} (sys : Sys σ α) : σ → Prop
  | init : Reachable sys sys.init
  | step (s s' : σ) (a : α) : Reachable sys s → a ∈ sys.acts → sys.step s a = some s' → Reachable sys s'

variable {σ α : Type} [DecidableEq σ]

def succs (sys : Sys σ α) (s : σ) : List σ := sys.acts.filterMap (sys.step s)

/-- breadth-first exploration with fuel -/
def explore (sys : Sys σ α) : Nat → List σ → List σ → List σ
  | 0, seen, _ => seen
  | fuel + 1, seen, frontier =>
    let next := (frontier.flatMap (succs sys)).eraseDups.filter (fun s => !seen.contains s)
    if next.isEmpty then seen else explore sys fuel (seen ++ next) next

def closedB (sys : Sys σ α) (R : List σ) : Bool :=
  R.contains sys.init &&
  R.all (fun s => sys.acts.all (fun a => match sys.step s a with | none => true | some s' => R.contains s'))

theorem reachable_mem (sys : Sys σ α) (R : List σ) (hc : closedB sys R = true) : ∀ s, Reachable sys s → s ∈ R := by
  simp only [closedB, Bool.and_eq_true, List.all_eq_true] at hc
  obtain ⟨hinit, hstep⟩ := hc
  intro s hr
  induction hr with
  | init => simpa using hinit
  | step s s' a _ ha hs ih =>
    have := hstep s ih a ha
    simp only [hs] at this
    simpa using this

/-- a property decided on a closed candidate set holds in every reachable state -/
theorem invariant_of_closed (sys : Sys σ α) (R : List σ) (P : σ → Bool) (hc : closedB sys R = true)
    (hp : R.all P = true) : ∀ s, Reachable sys s → P s = true := by
  intro s hr
  have hm := reachable_mem sys R hc s hr
  exact (List.all_eq_true.1 hp) s hm

omit [DecidableEq σ] in
theorem mem_succs {sys : Sys σ α} {s t : σ} : t ∈ succs sys s ↔ ∃ a ∈ sys.acts, sys.step s a = some t := by
  simp only [succs, List.mem_filterMap]

theorem explore_nil (sys : Sys σ α) (fuel : Nat) (seen : List σ) : explore sys fuel seen [] = seen := by
  cases fuel <;> rfl

omit [DecidableEq σ] in
theorem foldlM_cons_eq_some {step : σ → α → Option σ} {s t : σ} {a : α} {as : List α} :
    (a :: as).foldlM step s = some t ↔ ∃ s', step s a = some s' ∧ as.foldlM step s' = some t := by
  rw [List.foldlM_cons]; exact Option.bind_eq_some_iff

omit [DecidableEq σ] in
theorem foldlM_invariant (step : σ → α → Option σ) (P : σ → Prop) (hstep : ∀ s s' a, P s → step s a = some s' → P s')
    (s : σ) (as : List α) (h : P s) : ∀ s', as.foldlM (m := Option) step s = some s' → P s' := by
  induction as generalizing s with
  | nil => rintro _ ⟨⟩; exact h
  | cons a as ih =>
    intro s' hs
    obtain ⟨s1, h1, hs⟩ := foldlM_cons_eq_some.1 hs
    exact ih s1 (hstep s s1 a h h1) s' hs

/-- breadth-first search misses nothing within its fuel: if the successors of everything seen, the frontier apart, are seen, then
whatever a schedule of at most `fuel` actions reaches from a seen state is in the answer -/
theorem explore_complete (sys : Sys σ α) : ∀ (fuel : Nat) (seen frontier : List σ),
    (∀ s ∈ seen, s ∉ frontier → ∀ t ∈ succs sys s, t ∈ seen) →
    ∀ (as : List α) {s t : σ}, s ∈ seen → as.foldlM sys.step s = some t → (as.length ≤ fuel ∧ ∀ a ∈ as, a ∈ sys.acts) →
      t ∈ explore sys fuel seen frontier := by
  intro fuel
  induction fuel with
  | zero =>
    intro seen frontier _ as s t hs hrun has
    obtain rfl := List.eq_nil_of_length_eq_zero (Nat.le_zero.1 has.1)
    cases hrun; exact hs
  | succ n ih =>
    intro seen frontier hJ as s t hs hrun has
    rw [explore]
    -- one round: every successor of a seen state is seen afterwards
    have hnext : ∀ s ∈ seen, ∀ t ∈ succs sys s,
        t ∈ seen ++ ((frontier.flatMap (succs sys)).eraseDups.filter fun s => !seen.contains s) := by
      intro s hs t ht
      by_cases hf : s ∈ frontier
      · by_cases hts : t ∈ seen
        · exact List.mem_append_left _ hts
        · exact List.mem_append_right _ (List.mem_filter.2 ⟨List.mem_eraseDups.2 (List.mem_flatMap.2 ⟨s, hf, ht⟩), by simpa using hts⟩)
      · exact List.mem_append_left _ (hJ s hs hf t ht)
    generalize ((frontier.flatMap (succs sys)).eraseDups.filter fun s => !seen.contains s) = next at hnext ⊢
    -- the rest of the schedule, from a state seen after this round
    obtain ⟨s', as', hs', hrun', has'⟩ : ∃ (s' : σ) (as' : List α), s' ∈ seen ++ next ∧ as'.foldlM sys.step s' = some t ∧
        (as'.length ≤ n ∧ ∀ a ∈ as', a ∈ sys.acts) := by
      cases as with
      | nil => exact ⟨s, [], List.mem_append_left _ hs, hrun, Nat.zero_le _, nofun⟩
      | cons a as =>
        obtain ⟨s', hst, hrun'⟩ := foldlM_cons_eq_some.1 hrun
        exact ⟨s', as, hnext s hs s' (mem_succs.2 ⟨a, has.2 a List.mem_cons_self, hst⟩), hrun', Nat.le_of_succ_le_succ has.1,
          fun b hb => has.2 b (List.mem_cons_of_mem _ hb)⟩
    have key := ih (seen ++ next) next (fun s hs hf t ht => hnext s ((List.mem_append.1 hs).resolve_right hf) t ht) as' hs' hrun' has'
    split
    next hemp => rwa [List.isEmpty_iff.1 hemp, explore_nil, List.append_nil] at key
    next => exact key

theorem any_explore_of_run (sys : Sys σ α) (fuel : Nat) (p : σ → Bool) (as : List α) {t : σ}
    (has : as.length ≤ fuel ∧ ∀ a ∈ as, a ∈ sys.acts) (hrun : as.foldlM sys.step sys.init = some t) (hp : p t = true) :
    (explore sys fuel [sys.init] [sys.init]).any p = true :=
  List.any_eq_true.2 ⟨t, explore_complete sys fuel _ _ (fun _ hs hf => absurd hs hf) as List.mem_cons_self hrun has, hp⟩

/-! ## overwriting one slot of a list

The interleaving models keep their threads in a list and a step overwrites one slot (`List.set`); their invariants count the
slots in some state (`List.count`) and read other slots. -/

/-- overwriting one entry of a list moves one unit of `count` from the old value to the new one -/
theorem count_set {l : List σ} {i : Nat} {a : σ} (h : l[i]? = some a) (b x : σ) :
    (l.set i b).count x + (if a = x then 1 else 0) = l.count x + (if b = x then 1 else 0) := by
  obtain ⟨hi, rfl⟩ := List.getElem?_eq_some_iff.1 h
  rw [List.count_set hi]
  simp only [beq_iff_eq]
  split
  · -- the subtraction in `List.count_set` is exact: the `x` it takes away was there
    have : 0 < l.count x := List.count_pos_iff.2 (‹l[i] = x› ▸ List.getElem_mem hi)
    omega
  · omega

theorem count_set_ne {l : List σ} {i : Nat} {a b x : σ} (h : l[i]? = some a) (ha : a ≠ x) (hb : b ≠ x) :
    (l.set i b).count x = l.count x := by
  simpa [ha, hb] using count_set h b x

theorem count_set_to {l : List σ} {i : Nat} {a x : σ} (h : l[i]? = some a) (ha : a ≠ x) :
    (l.set i x).count x = l.count x + 1 := by
  simpa [ha] using count_set h x x

theorem count_set_from {l : List σ} {i : Nat} {b x : σ} (h : l[i]? = some x) (hb : b ≠ x) :
    (l.set i b).count x + 1 = l.count x := by
  simpa [hb] using count_set h b x

omit [DecidableEq σ]

theorem getElem?_set_of_some {l : List σ} {i : Nat} {a b : σ} (h : l[i]? = some a) : (l.set i b)[i]? = some b :=
  List.getElem?_set_self (List.getElem?_eq_some_iff.1 h).1

theorem getElem?_set_of_ne_val {l : List σ} {i k : Nat} {a b c : σ} (hi : l[i]? = some a) (hac : a ≠ c) (hk : l[k]? = some c) :
    (l.set i b)[k]? = some c := by
  have hik : i ≠ k := fun e => hac (Option.some.inj (hi.symm.trans (e ▸ hk)))
  rwa [List.getElem?_set_ne hik]

theorem getElem?_of_set {l : List σ} {i k : Nat} {b c : σ} (h : (l.set i b)[k]? = some c) :
    l[k]? = some c ∨ (k = i ∧ b = c) := by
  rw [List.getElem?_set] at h
  split at h
  · split at h
    · exact .inr ⟨‹i = k›.symm, Option.some.inj h⟩
    · cases h
  · exact .inl h

end Failsafe.Conc
