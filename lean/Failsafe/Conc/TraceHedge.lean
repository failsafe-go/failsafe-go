import Failsafe.Conc.Trace
import Failsafe.Conc.Hedge
/-!
# Observable traces of one hedged execution (TRACE tie of C09)

The harness runs a real hedge policy around an instrumented function. Stamps (one atomic counter): the `OnHedge` listener, each
attempt's function entry and its return (with whether the value it returns matches the cancel conditions), the caller after the
call returned (the returned value names the winning attempt), and then one reading of `IsCanceled()` of every attempt that had
entered. Attempts are numbered in the order their functions were entered; the model numbers them in launch order — every event
of attempt `j` happens when at least `j + 1` attempts have been launched, and the model treats launched attempts alike, so the
renumbering is immaterial.

The model is `Conc.Hedge` (coordinator, attempts, `resultCount`, the `resultSent` CAS, the channel) with the observation points as
visible actions. Launching the first attempt, the hedge-delay timer and the coordinator's receive are silent; launching a hedge is
visible as the `OnHedge` call that precedes it.
-/
namespace Failsafe.Conc.TraceHedge
open Failsafe.Conc.Hedge

inductive Ev
  | hedge                              -- `OnHedge`
  | enter (k : Nat)                    -- attempt k's function was entered
  | finish (k : Nat) (c : Bool)        -- attempt k's function is about to return; c: the value matches the cancel conditions
  | callerRet (k : Nat)                -- the call returned attempt k's value
  | seeCancelled (k : Nat) (b : Bool)  -- after the return: attempt k's `IsCanceled()`
  | settled (n : Nat)                  -- after the return and a grace period: the number of attempts whose function was ever entered
deriving DecidableEq, Repr

inductive Act
  | launchFirst | launchHedge | timer | recv
  | fnRet (k : Nat) (c : Bool)         -- visible: the function of attempt k returns (stamped inside the function)
  | count (k : Nat) (c : Bool)         -- silent: the attempt's goroutine counts the result (`isFinal` is decided here) …
  | trySend (k : Nat) (c f : Bool)     -- silent: … and then tries the CAS and sends
  | enter (k : Nat) | callerRet (k : Nat) | seeCancelled (k : Nat) | settled
deriving DecidableEq, Repr

/-- the model's state plus the attempts whose function has returned but whose result the library has not processed yet (the
order in which functions return is not the order in which their goroutines reach the `resultSent` CAS) -/
structure TS where
  core : St
  retd : List (Nat × Bool) := []
deriving DecidableEq, Repr

def step (t : TS) : Act → Option TS
  | .launchFirst => if t.core.launched = 0 then (Hedge.step t.core .launch).map (fun s => { t with core := s }) else none
  | .launchHedge => if 0 < t.core.launched then (Hedge.step t.core .launch).map (fun s => { t with core := s }) else none
  | .timer => (Hedge.step t.core .timer).map (fun s => { t with core := s })
  | .recv => (Hedge.step t.core .recv).map (fun s => { t with core := s })
  | .fnRet k c =>
    if t.core.ths[k]? = some .running ∧ ¬ t.retd.any (fun x => x.1 == k) then some { t with retd := (k, c) :: t.retd } else none
  | .count k c =>
    if t.retd.contains (k, c) then (Hedge.step t.core (.count k c)).map (fun s => { core := s, retd := t.retd.erase (k, c) }) else none
  | .trySend k c f => (Hedge.step t.core (.trySend k c f)).map (fun s => { t with core := s })
  | .enter k => if t.core.ths[k]? = some .running ∧ ¬ t.retd.any (fun x => x.1 == k) then some t else none
  | .callerRet k => if t.core.returned = true ∧ (t.core.accepted.map (·.1)) = some k then some t else none
  | .seeCancelled k => if t.core.returned = true ∧ k < t.core.launched then some t else none
  | .settled => if t.core.returned = true then some t else none

def silent : Act → Bool
  | .launchFirst | .timer | .recv | .count _ _ | .trySend _ _ _ => true
  | _ => false

def shows (t : TS) : Act → Ev → Bool
  | .launchHedge, .hedge => true
  | .fnRet k c, .finish k' c' => k == k' && c == c'
  | .enter k, .enter k' => k == k'
  | .callerRet k, .callerRet k' => k == k'
  | .seeCancelled k, .seeCancelled k' b => k == k' && (t.core.cancelled.contains k == b)
  | .settled, .settled n => t.core.launched == n     -- every attempt that was counted (`CopyForHedge`, `OnHedge`) was also started
  | _, _ => false

def acts (n : Nat) : List Act :=
  [.launchFirst, .launchHedge, .timer, .recv, .settled] ++
    (List.range n).flatMap (fun k => [.fnRet k true, .fnRet k false, .count k true, .count k false, .trySend k true true, .trySend k true false, .trySend k false true,
      .trySend k false false, .enter k, .callerRet k, .seeCancelled k])

def osys (n : Nat) : Trace.OSys TS Act Ev :=
  { init := { core := Hedge.init n }, acts := acts n, step := step, silent := silent, shows := shows }

/-- the step of `Conc.Hedge` that a traced action performs on the model component, if any -/
def coreAct : Act → Option Hedge.Act
  | .launchFirst | .launchHedge => some .launch
  | .timer => some .timer
  | .recv => some .recv
  | .count k c => some (.count k c)
  | .trySend k c f => some (.trySend k c f)
  | _ => none

/-- **what a step of the traced system is**: on the model component, the step of `Conc.Hedge` named by `coreAct` or nothing; on the
returned-but-uncounted list, only `fnRet` adds an entry and `count k c` needs its entry -/
theorem step_cases {t t' : TS} {a : Act} (h : step t a = some t') :
    ((coreAct a = none ∧ t'.core = t.core) ∨ ∃ x, coreAct a = some x ∧ Hedge.step t.core x = some t'.core) ∧
      (∀ kc ∈ t'.retd, kc ∈ t.retd ∨ a = .fnRet kc.1 kc.2) ∧ (∀ k c, a = .count k c → (k, c) ∈ t.retd) := by
  -- every case of `step` is `if guard then … else none` around a mapped core step or `some t`
  cases a with
  | launchFirst | launchHedge =>
    obtain ⟨_, h⟩ := Option.ite_none_right_eq_some.1 h
    obtain ⟨s, hs, rfl⟩ := Option.map_eq_some_iff.1 h
    exact ⟨Or.inr ⟨_, rfl, hs⟩, fun _ hk => Or.inl hk, nofun⟩
  | timer | recv | trySend =>
    obtain ⟨s, hs, rfl⟩ := Option.map_eq_some_iff.1 h
    exact ⟨Or.inr ⟨_, rfl, hs⟩, fun _ hk => Or.inl hk, nofun⟩
  | count k c =>
    obtain ⟨hmem, h⟩ := Option.ite_none_right_eq_some.1 h
    obtain ⟨s, hs, rfl⟩ := Option.map_eq_some_iff.1 h
    exact ⟨Or.inr ⟨_, rfl, hs⟩, fun _ hk => Or.inl (List.mem_of_mem_erase hk), by rintro _ _ ⟨⟩; exact List.contains_iff_mem.1 hmem⟩
  | fnRet k c =>
    obtain ⟨_, ⟨⟩⟩ := Option.ite_none_right_eq_some.1 h
    refine ⟨Or.inl ⟨rfl, rfl⟩, fun kc hk => ?_, nofun⟩
    rcases List.mem_cons.1 hk with rfl | hk
    · exact Or.inr rfl
    · exact Or.inl hk
  | enter | callerRet | seeCancelled | settled =>
    obtain ⟨_, ⟨⟩⟩ := Option.ite_none_right_eq_some.1 h
    exact ⟨Or.inl ⟨rfl, rfl⟩, fun _ hk => Or.inl hk, nofun⟩

def actOf : Ev → Act
  | .hedge => .launchHedge
  | .enter k => .enter k
  | .finish k c => .fnRet k c
  | .callerRet k => .callerRet k
  | .seeCancelled k _ => .seeCancelled k
  | .settled _ => .settled

theorem shows_act {t : TS} {x : Act} {e : Ev} (h : shows t x e = true) : x = actOf e := by
  unfold shows at h
  -- `shows` is a table of (action, event) rows, some with a side condition: on a row the action is the event's own
  split at h <;> simp_all [actOf]

/-- **induction over the reachable states of the traced system, on the model component**: the observation points add no behaviour, so what
the steps of `Conc.Hedge` keep (given its invariant) holds of the model component of every state the traced system reaches -/
theorem reach_induct (n : Nat) (P : St → Prop) (h0 : P (Hedge.init n))
    (hstep : ∀ s x s', Hedge.Inv s → P s → Hedge.step s x = some s' → P s') (t : TS) (h : Trace.Reach (osys n) t) : Inv t.core ∧ P t.core := by
  induction h with
  | init => exact ⟨init_inv n, h0⟩
  | step t t' a _ _ hst ih =>
    rcases (step_cases hst).1 with ⟨_, h1⟩ | ⟨x, _, h1⟩
    · rw [h1]; exact ih
    · exact ⟨inv_step _ _ x ih.1 h1, hstep _ x _ ih.1 ih.2 h1⟩

/-- the observation points add no behaviour: the model component of every state the traced system reaches satisfies the invariant -/
theorem reach_inv (n : Nat) (t : TS) (h : Trace.Reach (osys n) t) : Inv t.core :=
  (reach_induct n (fun _ => True) trivial (fun _ _ _ _ _ _ => trivial) t h).1

def parseEv (s : String) : Option Ev :=
  match s.splitOn ":" with
  | ["hedge"] => some .hedge
  | ["enter", k] => k.toNat?.map .enter
  | ["finish", k, c] => k.toNat?.map (fun k => .finish k (c == "1"))
  | ["ret", k] => k.toNat?.map .callerRet
  | ["see", k, b] => k.toNat?.map (fun k => .seeCancelled k (b == "1"))
  | ["settled", n] => n.toNat?.map .settled
  | _ => none

end Failsafe.Conc.TraceHedge
