/-!
# Linearizability of a concurrent history against a sequential model

A history is a list of completed operations with call / return stamps (from one global counter) and the result observed.
`linearize` enumerates the model states reachable by *some* order of the operations that (i) respects real time — an
operation that returned before another was called comes first — and (ii) reproduces every observed result on the sequential
model `step`. `IsLin` is the declarative definition; `linearize_complete` shows the search misses no valid order (so an empty
answer really means "not linearizable": no false alarm), `linearize_sound` that it only returns states of valid orders.
-/
namespace Failsafe.Conc.Linearize

structure HOp where
  thread : Nat
  call : Nat
  ret : Nat
  op : String
  res : String
deriving Repr, DecidableEq

variable {σ : Type}

/-- `o` may be linearized first among `ops`: nothing in `ops` returned before `o` was called -/
def minimal (ops : List HOp) (o : HOp) : Bool := !ops.any (fun p => decide (p.ret < o.call))

/-- a valid linearization of `ops` from state `m` ending in `m'`: pick a minimal operation whose result the model reproduces,
    remove it, continue -/
inductive IsLin (step : σ → String → σ × String) : σ → List HOp → σ → Prop
  | nil (m : σ) : IsLin step m [] m
  | cons (m m' : σ) (ops : List HOp) (o : HOp) :
      o ∈ ops → minimal ops o = true → (step m o.op).2 = o.res →
      IsLin step (step m o.op).1 (ops.erase o) m' → IsLin step m ops m'

def linearize (step : σ → String → σ × String) : Nat → σ → List HOp → List σ
  | 0, _, _ => []
  | _ + 1, m, [] => [m]
  | fuel + 1, m, o0 :: rest =>
    let ops := o0 :: rest
    ops.flatMap (fun o =>
      if minimal ops o && (step m o.op).2 == o.res then linearize step fuel (step m o.op).1 (ops.erase o) else [])

/-- one round of the search: the states found from a non-empty `ops` are those found after a first operation `IsLin.cons` allows -/
theorem mem_linearize_succ (step : σ → String → σ × String) (f : Nat) (m m' : σ) {ops : List HOp} (hne : ops ≠ []) :
    m' ∈ linearize step (f + 1) m ops ↔
      ∃ o ∈ ops, minimal ops o = true ∧ (step m o.op).2 = o.res ∧ m' ∈ linearize step f (step m o.op).1 (ops.erase o) := by
  cases ops with
  | nil => exact absurd rfl hne
  | cons o0 rest => simp [linearize, and_assoc]

theorem linearize_complete (step : σ → String → σ × String) (m m' : σ) (ops : List HOp) (h : IsLin step m ops m')
    (fuel : Nat) (hf : ops.length < fuel) : m' ∈ linearize step fuel m ops := by
  induction h generalizing fuel with
  | nil m =>
    obtain ⟨f, rfl⟩ := Nat.exists_eq_add_one_of_ne_zero (Nat.ne_zero_of_lt hf)
    simp [linearize]
  | cons m m' ops o hmem hmin hres _ ih =>
    obtain ⟨f, rfl⟩ := Nat.exists_eq_add_one_of_ne_zero (Nat.ne_zero_of_lt hf)
    have hlen : (ops.erase o).length < f := by
      have := List.length_pos_of_mem hmem; rw [List.length_erase_of_mem hmem]; omega
    exact (mem_linearize_succ step f m m' (List.ne_nil_of_mem hmem)).2 ⟨o, hmem, hmin, hres, ih f hlen⟩

theorem linearize_sound (step : σ → String → σ × String) (fuel : Nat) (m m' : σ) (ops : List HOp)
    (h : m' ∈ linearize step fuel m ops) : IsLin step m ops m' := by
  induction fuel generalizing m ops with
  | zero => simp [linearize] at h
  | succ f ih =>
    by_cases hne : ops = []
    · subst hne; simp [linearize] at h; rw [h]; exact IsLin.nil _
    · obtain ⟨o, hmem, hmin, hres, ho⟩ := (mem_linearize_succ step f m m' hne).1 h
      exact IsLin.cons m m' ops o hmem hmin hres (ih _ _ ho)

theorem mem_linearize_iff (step : σ → String → σ × String) (m m' : σ) (ops : List HOp) :
    m' ∈ linearize step (ops.length + 1) m ops ↔ IsLin step m ops m' :=
  ⟨linearize_sound step _ m m' ops, fun h => linearize_complete step m m' ops h _ (Nat.lt_succ_self _)⟩

/-- the verdict "not linearizable" is exact: the search returns nothing iff no valid linearization exists -/
theorem not_linearizable_iff (step : σ → String → σ × String) (m : σ) (ops : List HOp) :
    linearize step (ops.length + 1) m ops = [] ↔ ¬ ∃ m', IsLin step m ops m' := by
  rw [List.eq_nil_iff_forall_not_mem, not_exists]
  exact forall_congr' fun m' => not_congr (mem_linearize_iff step m m' ops)

/-- a valid linearization never applies an operation before one that had returned before it was called -/
theorem first_is_minimal (step : σ → String → σ × String) (m m' : σ) (ops : List HOp) (o p : HOp)
    (hmin : minimal ops o = true) (hp : p ∈ ops) : ¬ p.ret < o.call := by
  simp only [minimal, Bool.not_eq_true', List.any_eq_false, decide_eq_true_eq] at hmin
  exact hmin p hp

end Failsafe.Conc.Linearize
