import Failsafe.Conc.Finite
/-!
# Hedge executor: coordinator loop and attempt goroutines (hedgepolicy/hedgeexecutor.go)

`n = maxHedges + 1` attempts at most. The coordinator launches attempt `launched`, then waits for the hedge delay timer or a
result (only a result once all attempts are launched). An attempt that finishes increments `resultCount` (action `count`: this
is where `isFinal` is decided) and, in a **separate** step (`trySend`), sends its result iff `(isFinal ∨ cancellable) ∧
CAS(resultSent)` — two atomics, so another attempt may get in between (found by the TRACE tie: a recorded run in which the final,
non-cancellable result won the CAS against a cancellable one that had been counted earlier); the channel has capacity `Facts.hedgeChanCap` (the theorems below do not
depend on it: at most one send ever happens and the coordinator receives once). On receiving, the coordinator cancels every
other launched attempt and returns.
-/
namespace Failsafe.Conc.Hedge

inductive A | idle | running | finished deriving DecidableEq, Repr

structure St where
  n : Nat
  ths : List A                        -- attempts, length n
  launched : Nat := 0
  finishedCount : Nat := 0            -- resultCount
  sent : Bool := false                -- resultSent
  sends : Nat := 0
  chan : Option (Nat × Bool) := none  -- (attempt, its result matches the cancel conditions)
  accepted : Option (Nat × Bool) := none
  waiting : Bool := false
  returned : Bool := false
  timers : Nat := 0                   -- hedge-delay timers that have fired
  cancelled : List Nat := []          -- attempts cancelled by the coordinator on return
  pending : List (Nat × Bool × Bool) := []   -- counted, CAS not tried yet: (attempt, cancellable, isFinal)
deriving Repr, DecidableEq

inductive Act
  | launch
  | timer
  | recv
  | count (k : Nat) (cancellable : Bool)              -- the attempt's function has returned: `resultCount.Add(1)`, `isFinal` decided
  | trySend (k : Nat) (cancellable isFinal : Bool)   -- `(isFinal || cancellable) && resultSent.CompareAndSwap(false, true)` then send

def step (s : St) : Act → Option St
  | .launch =>
    if ¬ s.returned ∧ ¬ s.waiting ∧ s.launched < s.n ∧ s.ths[s.launched]? = some .idle then
      some { s with ths := s.ths.set s.launched .running, launched := s.launched + 1, waiting := true }
    else none
  | .timer =>
    -- only armed while another hedge may still be started: execIdx = launched - 1 < maxHedges
    if s.waiting ∧ s.launched < s.n then some { s with waiting := false, timers := s.timers + 1 } else none
  | .recv =>
    if s.waiting then
      match s.chan with
      | some x => some { s with chan := none, accepted := some x, waiting := false, returned := true,
                                cancelled := (List.range s.launched).filter (· ≠ x.1) }
      | none => none
    else none
  | .count k c =>
    if s.ths[k]? = some .running then
      let cnt := s.finishedCount + 1
      some { s with ths := s.ths.set k .finished, finishedCount := cnt, pending := (k, c, decide (cnt = s.n)) :: s.pending }
    else none
  | .trySend k c f =>
    if (k, c, f) ∈ s.pending then
      if (f || c) && !s.sent then
        some { s with pending := s.pending.erase (k, c, f), sent := true, sends := s.sends + 1, chan := some (k, c) }
      else some { s with pending := s.pending.erase (k, c, f) }
    else none

def nonIdle (l : List A) : Nat := l.count .running + l.count .finished

/-- what every schedule keeps: the attempt slots are started in order and counted (`len` … `fin`); at most one result is ever sent, and it
is in the channel or accepted (`sendsEq` … `accSent`, `retAcc`); `produced` and `notBefore` are the two clauses C09 states as properties,
and `pend` is what carries `produced` over a `trySend` -/
structure Inv (s : St) : Prop where
  len : s.ths.length = s.n
  launchedEq : nonIdle s.ths = s.launched
  prefixStarted : ∀ k, s.launched ≤ k → k < s.n → s.ths[k]? = some .idle     -- exactly the first `launched` slots have been started
  launchedLe : s.launched ≤ s.n
  fin : s.finishedCount = s.ths.count .finished
  sendsEq : s.sends = (if s.sent then 1 else 0)
  chanSent : s.chan.isSome → s.sent = true ∧ s.accepted = none
  accSent : s.accepted.isSome → s.sent = true ∧ s.chan = none
  -- a result in flight or accepted comes from a finished attempt; one that does not match the cancel conditions only once all have finished
  produced : ∀ x, (s.chan = some x ∨ s.accepted = some x) → s.ths[x.1]? = some .finished ∧ (x.2 = false → s.finishedCount = s.n)
  retAcc : s.returned = true → s.accepted.isSome
  -- every attempt but the first has had its delay timer; the one just started is still waiting for its own
  notBefore : s.launched ≤ s.timers + (if s.waiting = true ∨ s.returned = true ∨ s.launched = 0 then 1 else 0)
  waitingLaunched : s.waiting = true → 0 < s.launched
  pend : ∀ x ∈ s.pending, s.ths[x.1]? = some .finished ∧ (x.2.2 = true → s.finishedCount = s.n)

def init (n : Nat) : St := { n := n, ths := List.replicate n .idle }

theorem init_inv (n : Nat) : Inv (init n) := by
  constructor <;> simp +contextual [init, nonIdle, List.count_replicate]

theorem inv_step (s s' : St) (a : Act) (h : Inv s) (hs : step s a = some s') : Inv s' := by
  -- per action, only the clauses that read a field the action writes are shown; `{ h with … }` takes the others from `h`: they
  -- hold of `s'` by unfolding the record update
  cases a <;> simp only [step, Option.ite_none_right_eq_some, Option.some.injEq] at hs
  case launch =>
    obtain ⟨⟨hnr, hnw, hlt, hidle⟩, rfl⟩ := hs
    have keep {k : Nat} : s.ths[k]? = some .finished → (s.ths.set s.launched .running)[k]? = some .finished :=
      getElem?_set_of_ne_val hidle nofun
    have c1 := count_set_to (x := A.running) hidle nofun
    have c2 := count_set_ne (b := A.running) (x := A.finished) hidle nofun nofun
    exact { h with
      len := by simp [h.len]
      launchedEq := by have := h.launchedEq; simp only [nonIdle] at this ⊢; omega
      prefixStarted := fun k hk hkn => by
        dsimp only at hk ⊢
        rw [List.getElem?_set_ne (by omega)]; exact h.prefixStarted k (by omega) hkn
      launchedLe := hlt
      fin := h.fin.trans c2.symm
      produced := fun x hx => (h.produced x hx).imp_left keep
      notBefore := by
        -- the coordinator was not waiting: every attempt so far but the first has had its timer
        have := h.notBefore
        simp only [hnw, hnr, Bool.false_eq_true, false_or] at this
        simp only [true_or, if_true]
        split at this <;> omega
      waitingLaunched := fun _ => Nat.succ_pos _
      pend := fun x hx => (h.pend x hx).imp_left keep }
  case timer =>
    obtain ⟨hc, rfl⟩ := hs
    exact { h with
      notBefore := by have := h.notBefore; simp only [hc.1, true_or, if_true] at this; dsimp only; split <;> omega
      waitingLaunched := nofun }
  case recv =>
    obtain ⟨hw, hs⟩ := hs
    split at hs <;> cases hs
    rename_i x hx
    exact { h with
      chanSent := nofun
      accSent := fun _ => ⟨(h.chanSent (by simp [hx])).1, rfl⟩
      produced := fun y hy => by
        obtain rfl : x = y := by simpa using hy
        exact h.produced x (.inl hx)
      retAcc := fun _ => rfl
      notBefore := by have := h.notBefore; simp only [hw, true_or, if_true] at this; simpa using this
      waitingLaunched := nofun }
  case count k c =>
    obtain ⟨hrun, rfl⟩ := hs
    have keep {j : Nat} {b : A} (hb : .running ≠ b) : s.ths[j]? = some b → (s.ths.set k .finished)[j]? = some b :=
      getElem?_set_of_ne_val hrun hb
    have c1 := count_set_from (b := A.finished) hrun nofun
    have c2 := count_set_to (x := A.finished) hrun nofun
    -- an attempt is still running, so not all `n` have finished: no result produced so far is the final one
    have notFinal : s.finishedCount ≠ s.n := by
      have := h.launchedEq; have := h.fin; have := h.launchedLe; simp only [nonIdle] at *; omega
    have survives {j : Nat} {p : Prop} : s.ths[j]? = some .finished ∧ (p → s.finishedCount = s.n) →
        (s.ths.set k .finished)[j]? = some .finished ∧ (p → s.finishedCount + 1 = s.n) :=
      fun ⟨hj, hp⟩ => ⟨keep nofun hj, fun e => absurd (hp e) notFinal⟩
    exact { h with
      len := by simp [h.len]
      launchedEq := by have := h.launchedEq; simp only [nonIdle] at this ⊢; omega
      prefixStarted := fun j hj hjn => keep nofun (h.prefixStarted j hj hjn)
      fin := by have := h.fin; dsimp only; omega
      produced := fun x hx => survives (h.produced x hx)
      pend := List.forall_mem_cons.2 ⟨⟨getElem?_set_of_some hrun, of_decide_eq_true⟩, fun x hx => survives (h.pend x hx)⟩ }
  case trySend k c f =>
    obtain ⟨hmem, hs⟩ := hs
    have hsub : ∀ x ∈ s.pending.erase (k, c, f), s.ths[x.1]? = some .finished ∧ (x.2.2 = true → s.finishedCount = s.n) :=
      fun x hx => h.pend x (List.mem_of_mem_erase hx)
    split at hs <;> cases hs
    · rename_i hcond
      simp only [Bool.and_eq_true, Bool.or_eq_true, Bool.not_eq_true'] at hcond
      obtain ⟨hfc, hns⟩ := hcond
      -- nothing has been sent, so nothing has been accepted
      have hacc : s.accepted = none :=
        Option.not_isSome_iff_eq_none.1 fun ha => nomatch hns.symm.trans (h.accSent ha).1
      exact { h with
        sendsEq := by have := h.sendsEq; simp only [hns] at this; simp [this]
        chanSent := fun _ => ⟨rfl, hacc⟩
        accSent := by simp [hacc]
        produced := fun x hx => by
          obtain rfl : (k, c) = x := by simpa [hacc] using hx
          exact ⟨(h.pend _ hmem).1, fun hc => (h.pend _ hmem).2 (by simpa [show c = false from hc] using hfc)⟩
        pend := hsub }
    · exact { h with pend := hsub }

theorem inv_run (s : St) (as : List Act) (h : Inv s) :
    ∀ s', as.foldlM (m := Option) step s = some s' → Inv s' :=
  foldlM_invariant step Inv inv_step s as h

/-- what a step leaves alone: the configured number of attempts never changes, only `launch` starts an attempt, and only `count k _`
makes attempt `k` finished -/
theorem step_frame {s s' : St} {x : Act} (h : step s x = some s') :
    s'.n = s.n ∧ (x = .launch → s'.launched = s.launched + 1) ∧ (x ≠ .launch → s'.launched = s.launched) ∧
      ∀ k, s'.ths[k]? = some .finished → s.ths[k]? = some .finished ∨ ∃ c, x = .count k c := by
  cases x <;> simp only [step, Option.ite_none_right_eq_some, Option.some.injEq] at h
  case launch =>
    obtain ⟨-, rfl⟩ := h
    exact ⟨rfl, fun _ => rfl, fun hx => absurd rfl hx, fun k hk => (getElem?_of_set hk).imp_right (nomatch ·.2)⟩
  case count k' c' =>
    obtain ⟨-, rfl⟩ := h
    exact ⟨rfl, nofun, fun _ => rfl, fun k hk => (getElem?_of_set hk).imp_right fun e => ⟨c', by rw [e.1]⟩⟩
  all_goals
    -- the other actions write neither `n`, `launched` nor `ths`
    obtain ⟨-, h⟩ := h
    (repeat' split at h) <;> cases h <;> exact ⟨rfl, nofun, fun _ => rfl, fun _ hk => .inl hk⟩

/-- **the return**: `recv` is the one step that touches `returned`, `accepted` and `cancelled`, and no attempt is launched after it -/
theorem step_return {s s' : St} {a : Act} (h : step s a = some s') :
    (a = .recv ∧ ∃ x, s'.accepted = some x ∧ s'.returned = true ∧ s'.cancelled = (List.range s'.launched).filter (· ≠ x.1)) ∨
      (a ≠ .recv ∧ s'.returned = s.returned ∧ s'.accepted = s.accepted ∧ s'.cancelled = s.cancelled ∧ (a = .launch → s.returned = false)) := by
  cases a <;> simp only [step, Option.ite_none_right_eq_some, Option.some.injEq] at h
  case recv =>
    obtain ⟨-, h⟩ := h
    split at h <;> cases h
    exact Or.inl ⟨rfl, _, rfl, rfl, rfl⟩
  case launch =>
    obtain ⟨hg, rfl⟩ := h
    exact Or.inr ⟨nofun, rfl, rfl, rfl, fun _ => Bool.eq_false_iff.2 hg.1⟩
  case timer | count =>
    obtain ⟨-, rfl⟩ := h
    exact Or.inr ⟨nofun, rfl, rfl, rfl, nofun⟩
  case trySend =>
    obtain ⟨-, h⟩ := h
    split at h <;> cases h <;> exact Or.inr ⟨nofun, rfl, rfl, rfl, nofun⟩

end Failsafe.Conc.Hedge
