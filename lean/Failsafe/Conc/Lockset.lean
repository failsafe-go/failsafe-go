/-!
# Lock discipline ⇒ conflicting accesses are ordered (C14)

Traces of mutex acquisitions, releases and memory accesses by any number of threads. `Valid` is mutex semantics (a mutex is
acquired only when free, released only by its owner) together with the *discipline* read off the access table: every access to
variable `x` is made by the thread that currently owns `L x`. The theorem: any two accesses to the same variable by different
threads are separated, in the trace, by a release of `L x` by the first thread and a later acquisition of `L x` by the second —
which is exactly the chain `access ≤po unlock ≤sync lock ≤po access` that the Go memory model turns into happens-before
(“the n-th Unlock is synchronized before the m-th Lock returns, n < m”). Hence no data race on variables the table marks `mtx`.
-/
namespace Failsafe.Conc.Lockset

inductive Ev
  | acq (t m : Nat)
  | rel (t m : Nat)
  | acc (t x : Nat) (write : Bool)
deriving DecidableEq, Repr

/-- mutex ↦ owning thread -/
abbrev Owners := Nat → Option Nat

def apply (o : Owners) : Ev → Owners
  | .acq t m => fun k => if k = m then some t else o k
  | .rel _ m => fun k => if k = m then none else o k
  | .acc _ _ _ => o

def ok (L : Nat → Nat) (o : Owners) : Ev → Prop
  | .acq _ m => o m = none
  | .rel t m => o m = some t
  | .acc t x _ => o (L x) = some t

def Valid (L : Nat → Nat) : Owners → List Ev → Prop
  | _, [] => True
  | o, e :: es => ok L o e ∧ Valid L (apply o e) es

def after (o : Owners) (es : List Ev) : Owners := es.foldl apply o

theorem after_append (o : Owners) (a b : List Ev) : after o (a ++ b) = after (after o a) b := by
  simp [after, List.foldl_append]

theorem valid_append (L : Nat → Nat) (o : Owners) (a b : List Ev) :
    Valid L o (a ++ b) ↔ Valid L o a ∧ Valid L (after o a) b := by
  induction a generalizing o with
  | nil => simp [Valid, after]
  | cons e es ih =>
    simp only [List.cons_append, Valid, after, List.foldl_cons]
    rw [ih]
    simp [after, and_assoc]

/-- a run that does not start in `P` and ends in it enters it at some step -/
theorem foldl_first {σ α : Type} (f : σ → α → σ) (P : σ → Prop) (s : σ) (q : List α) (h0 : ¬ P s) (h1 : P (q.foldl f s)) :
    ∃ q1 e q2, q = q1 ++ e :: q2 ∧ ¬ P (q1.foldl f s) ∧ P (f (q1.foldl f s) e) := by
  induction q generalizing s with
  | nil => exact absurd h1 h0
  | cons e es ih =>
    by_cases h : P (f s e)
    · exact ⟨[], e, es, rfl, h0, h⟩
    · obtain ⟨q1, e', q2, hq, hb, ha⟩ := ih (f s e) h h1
      exact ⟨e :: q1, e', q2, by rw [hq]; rfl, hb, ha⟩

/-- the owner of `m` changes only at an acquisition or a release of `m` -/
theorem apply_ne {o : Owners} {e : Ev} {m : Nat} (h : apply o e m ≠ o m) :
    (∃ t, e = .acq t m ∧ apply o e m = some t) ∨ (∃ t, e = .rel t m ∧ apply o e m = none) := by
  cases e with
  | acq t m' =>
    by_cases hm : m = m'
    · subst hm; exact .inl ⟨t, rfl, by simp [apply]⟩
    · simp [apply, hm] at h
  | rel t m' =>
    by_cases hm : m = m'
    · subst hm; exact .inr ⟨t, rfl, by simp [apply]⟩
    · simp [apply, hm] at h
  | acc => exact absurd rfl h

/-- if `t` owns `m` and later does not, `t` released `m` in between -/
theorem released_between (L : Nat → Nat) (q : List Ev) (o : Owners) (m t : Nat) (hv : Valid L o q) (h1 : o m = some t)
    (h2 : after o q m ≠ some t) :
    ∃ q1 q2, q = q1 ++ Ev.rel t m :: q2 ∧ after o (q1 ++ [Ev.rel t m]) m = none := by
  obtain ⟨q1, e, q2, rfl, hb, ha⟩ := foldl_first apply (fun o => o m ≠ some t) o q (fun h => h h1) h2
  have hb : after o q1 m = some t := Decidable.not_not.1 hb
  -- the step that takes `m` from `t` is enabled, so it is not an acquisition, and the release is `t`'s own
  have hok : ok L (after o q1) e := ((valid_append L o q1 (e :: q2)).1 hv).2.1
  rcases apply_ne (hb ▸ ha) with ⟨t', rfl, -⟩ | ⟨t', rfl, hn⟩
  · exact nomatch hb.symm.trans hok
  · obtain rfl : t = t' := Option.some.inj (hb.symm.trans hok)
    exact ⟨q1, q2, rfl, by rw [after_append]; exact hn⟩

/-- if `u` does not own `m` and later does, `u` acquired `m` in between -/
theorem acquired_between (q : List Ev) (o : Owners) (m u : Nat) (h1 : o m ≠ some u) (h2 : after o q m = some u) :
    ∃ a b, q = a ++ Ev.acq u m :: b := by
  obtain ⟨a, e, b, rfl, hb, ha⟩ := foldl_first apply (fun o => o m = some u) o q h1 h2
  rcases apply_ne (o := after o a) (fun h => hb (h.symm.trans ha)) with ⟨t', rfl, hs⟩ | ⟨t', rfl, hn⟩
  · obtain rfl : t' = u := Option.some.inj (hs.symm.trans ha)
    exact ⟨a, b, rfl⟩
  · exact nomatch hn.symm.trans ha

/-- **Lock discipline orders conflicting accesses**: in every valid trace, between an access to `x` by `t` and a later access to
`x` by another thread `u` there is a release of `L x` by `t` followed by an acquisition of `L x` by `u`. -/
theorem lock_discipline_orders_accesses (L : Nat → Nat) (o : Owners) (p q r : List Ev) (t u x : Nat) (w1 w2 : Bool) (htu : t ≠ u)
    (hv : Valid L o (p ++ [Ev.acc t x w1] ++ q ++ [Ev.acc u x w2] ++ r)) :
    ∃ q1 q2 q3, q = q1 ++ [Ev.rel t (L x)] ++ q2 ++ [Ev.acq u (L x)] ++ q3 := by
  rw [valid_append, valid_append, valid_append, valid_append] at hv
  obtain ⟨⟨⟨⟨_, h1⟩, hq⟩, h2⟩, _⟩ := hv
  have hsame : after o (p ++ [Ev.acc t x w1]) = after o p := by simp [after, apply]
  rw [hsame] at hq
  have ht : after o p (L x) = some t := h1.1
  have hu : after (after o p) q (L x) = some u := by rw [← hsame, ← after_append]; exact h2.1
  obtain ⟨q1, q2, rfl, hnone⟩ :=
    released_between L q (after o p) (L x) t hq ht (by rw [hu]; exact fun h => htu (Option.some.inj h).symm)
  rw [List.append_cons, after_append] at hu
  obtain ⟨a, b, rfl⟩ := acquired_between q2 _ (L x) u (by rw [hnone]; nofun) hu
  exact ⟨q1, a, b, by simp⟩

/-! ## no deadlock without nested acquisition -/

/-- what each thread is blocked on, if anything -/
abbrev Waiting := Nat → Option Nat

/-- the library's lock graph: a thread that is waiting for a mutex owns none (no nested acquisition, FACTS `callsUnderLock`) -/
def NoNesting (o : Owners) (w : Waiting) : Prop := ∀ t m, w t = some m → ∀ k, o k ≠ some t

/-- whenever some thread waits for a mutex, either that mutex is free (it can take it) or its owner is not itself waiting
(it can run on to its release): no deadlock among the library's mutexes -/
theorem no_deadlock (o : Owners) (w : Waiting) (h : NoNesting o w) (t m : Nat) (hw : w t = some m) :
    o m = none ∨ ∃ u, o m = some u ∧ w u = none := by
  cases hm : o m with
  | none => exact Or.inl rfl
  | some u =>
    refine Or.inr ⟨u, rfl, ?_⟩
    cases hwu : w u with
    | none => rfl
    | some m' => exact absurd hm (h u m' hwu m)

end Failsafe.Conc.Lockset
