import Failsafe.Conc.Finite
/-!
# Concurrent executions through one circuit breaker (circuitbreakerexecutor.go, circuitbreaker.go)

Every public breaker method runs under the breaker's mutex (FACTS `locks/circuitBreaker.*`), so admission (`PreExecute` =
`TryAcquirePermit`) and recording (`OnSuccess`/`OnFailure`) are atomic actions; any number of executions interleave.
The half-open bound is claimed — as in the property — for schedules in which no execution admitted before the breaker opened
is still in flight when it half-opens: the `enter` step that performs the open → half-open transition is only enabled then
(`stale = 0`).
-/
namespace Failsafe.Conc.BreakerConc

inductive T | idle | run | trial | done | rejected deriving DecidableEq, Repr
inductive Tag | closed | opened | halfOpen deriving DecidableEq, Repr

structure St where
  cap : Nat            -- trial capacity
  tag : Tag
  elapsed : Bool       -- open state: the delay has elapsed
  permits : Nat        -- half-open state: permittedExecutions
  ths : List T
deriving Repr

/-- how a recorded result changes the state: thresholds are abstracted to a nondeterministic verdict -/
inductive Verdict | stay | close | open_ deriving DecidableEq, Repr

inductive Act
  | enter (i : Nat)                    -- PreExecute
  | finishRun (i : Nat) (v : Verdict)  -- an execution admitted while closed records its result
  | finishTrial (i : Nat) (v : Verdict)
  | tick                               -- the delay elapses

def trials (l : List T) : Nat := l.count T.trial
def stale (l : List T) : Nat := l.count T.run

def step (s : St) : Act → Option St
  | .enter i =>
    if s.ths[i]? = some .idle then
      match s.tag with
      | .closed => some { s with ths := s.ths.set i .run }
      | .opened =>
        if s.elapsed ∧ stale s.ths = 0 ∧ trials s.ths = 0 then
          -- open → half-open, then the half-open state's own tryAcquirePermit
          if 0 < s.cap then some { s with tag := .halfOpen, permits := s.cap - 1, ths := s.ths.set i .trial }
          else some { s with tag := .halfOpen, permits := 0, ths := s.ths.set i .rejected }
        else if s.elapsed then none     -- excluded schedules (executions admitted before the opening still in flight)
        else some { s with ths := s.ths.set i .rejected }          -- ErrOpen, the function is not invoked
      | .halfOpen =>
        if 0 < s.permits then some { s with permits := s.permits - 1, ths := s.ths.set i .trial }
        else some { s with ths := s.ths.set i .rejected }
    else none
  | .finishRun i v =>
    if s.ths[i]? = some .run ∧ s.tag ≠ .halfOpen then
      match v, s.tag with
      | .open_, .closed => some { s with tag := .opened, elapsed := false, ths := s.ths.set i .done }
      | _, _ => some { s with ths := s.ths.set i .done }
    else none
  | .finishTrial i v =>
    if s.ths[i]? = some .trial then
      if s.tag = .halfOpen then
        match v with
        | .stay => some { s with permits := s.permits + 1, ths := s.ths.set i .done }   -- the permit comes back
        | .close => some { s with tag := .closed, ths := s.ths.set i .done }
        | .open_ => some { s with tag := .opened, elapsed := false, ths := s.ths.set i .done }
      else some { s with ths := s.ths.set i .done }     -- a trial of an earlier half-open epoch: recorded into the current state
    else none
  | .tick => if s.tag = .opened then some { s with elapsed := true } else none

/-- in the half-open state the permits handed out plus the permits available are exactly the capacity -/
def Inv (s : St) : Prop := s.tag = .halfOpen → s.permits + trials s.ths = s.cap

/-- Only a step that ends half-open has anything to show: entering the state hands out the first permit of `cap`, an admission
takes a permit, a refusal takes none, a recorded trial that leaves the state as it is gives its permit back. -/
theorem inv_step (s s' : St) (a : Act) (h : Inv s) (hs : step s a = some s') : Inv s' := by
  cases a <;> simp only [step, Option.ite_none_right_eq_some, Option.some.injEq] at hs
  case enter i =>
    obtain ⟨hi, hs⟩ := hs
    have admitted : trials (s.ths.set i .trial) = trials s.ths + 1 := count_set_to hi nofun
    have refused : trials (s.ths.set i .rejected) = trials s.ths := count_set_ne hi nofun nofun
    split at hs
    next htag =>
      cases hs
      exact fun e => nomatch htag.symm.trans e
    next htag =>
      split at hs
      next hcond =>
        split at hs <;> cases hs
        · exact fun _ => show s.cap - 1 + trials (s.ths.set i .trial) = s.cap by omega
        · exact fun _ => show 0 + trials (s.ths.set i .rejected) = s.cap by omega
      next =>
        split at hs <;> cases hs
        exact fun e => nomatch htag.symm.trans e
    next htag =>
      have := h htag
      split at hs <;> cases hs
      · exact fun _ => show s.permits - 1 + trials (s.ths.set i .trial) = s.cap by omega
      · exact fun _ => show s.permits + trials (s.ths.set i .rejected) = s.cap by omega
  case finishRun i v =>
    obtain ⟨hi, hs⟩ := hs
    split at hs <;> cases hs
    · exact nofun
    · exact fun e => absurd e hi.2
  case finishTrial i v =>
    obtain ⟨hi, hs⟩ := hs
    have : trials (s.ths.set i .done) + 1 = trials s.ths := count_set_from hi nofun
    split at hs
    next htag =>
      have := h htag
      cases v <;> cases hs
      · exact fun _ => show s.permits + 1 + trials (s.ths.set i .done) = s.cap by omega
      · exact nofun
      · exact nofun
    next htag =>
      cases hs
      exact fun e => absurd e htag
  case tick =>
    obtain ⟨htag, rfl⟩ := hs
    exact fun e => nomatch htag.symm.trans e

theorem inv_run (s : St) (as : List Act) (h : Inv s) :
    ∀ s', as.foldlM (m := Option) step s = some s' → Inv s' :=
  foldlM_invariant step Inv inv_step s as h

end Failsafe.Conc.BreakerConc
