import Failsafe.Conc.Trace
import Failsafe.Conc.Future
/-!
# Observable traces of one asynchronous execution (TRACE tie of C15)

Readers poll `IsDone()` and the `Done()` channel and call `Get()` while the execution runs; the completion listener (`OnDone`)
stamps itself; the harness may `Cancel()` at any moment. All stamps come from one global atomic counter. The model is
`Conc.Future` (listeners → store result → store done flag → close) with the readers' observations as visible actions that do
not change the state; the producer's stores are silent. `Trace.accepts` decides whether some interleaving shows the events.
-/
namespace Failsafe.Conc.TraceFuture
open Failsafe.Conc.Future

inductive Ev
  | listener                 -- the completion listener ran
  | seeIsDone (b : Bool)     -- a reader got `IsDone() = b`
  | seeClosed (b : Bool)     -- a reader found `Done()` closed / still open
  | got                      -- a reader's `Get()` returned
  | cancel                   -- the harness called `Cancel()`
deriving DecidableEq, Repr

inductive Act
  | core (a : Future.Act)
  | seeIsDone | seeClosed | got
deriving DecidableEq, Repr

def step (s : St) : Act → Option St
  | .core a => Future.step s a
  | .seeIsDone => some s
  | .seeClosed => some s
  | .got => if s.closes ≥ 1 then some s else none      -- `Get` waits for the channel

def silent : Act → Bool
  | .core .finishListeners => false
  | .core .cancel => false
  | .core _ => true
  | _ => false

def shows (s : St) : Act → Ev → Bool
  | .core .finishListeners, .listener => true
  | .core .cancel, .cancel => true
  | .seeIsDone, .seeIsDone b => s.doneFlag == b
  | .seeClosed, .seeClosed b => decide (s.closes ≥ 1) == b
  | .got, .got => s.resultVersion == 1
  | _, _ => false

def acts : List Act :=
  [.core .finishListeners, .core .storeResult, .core .storeDone, .core .close, .core .cancel, .seeIsDone, .seeClosed, .got]

def osys : Trace.OSys St Act Ev := { init := {}, acts := acts, step := step, silent := silent, shows := shows }

/-- a step of the traced system is a step of `Conc.Future` or an observation, which leaves the state alone -/
theorem step_cases {s s' : St} {x : Act} (h : step s x = some s') :
    (∃ a, x = .core a ∧ Future.step s a = some s') ∨ ((∀ a, x ≠ .core a) ∧ s' = s) := by
  cases x with
  | core a => exact Or.inl ⟨a, rfl, h⟩
  | seeIsDone | seeClosed => cases h; exact Or.inr ⟨nofun, rfl⟩
  | got =>
    obtain ⟨_, ⟨⟩⟩ := Option.ite_none_right_eq_some.1 h
    exact Or.inr ⟨nofun, rfl⟩

def actOf : Ev → Act
  | .listener => .core .finishListeners
  | .cancel => .core .cancel
  | .seeIsDone _ => .seeIsDone
  | .seeClosed _ => .seeClosed
  | .got => .got

theorem shows_act {s : St} {x : Act} {e : Ev} (h : shows s x e = true) : x = actOf e := by
  unfold shows at h
  -- `shows` is a table of (action, event) rows: on a row the action is the event's own, off the table `h` is `false = true`
  split at h <;> first | rfl | cases h

theorem mem_acts (a : Future.Act) : a ∈ Future.sys.acts := by cases a <;> simp [Future.sys]

theorem reach_core (s : St) (h : Trace.Reach osys s) : Reachable Future.sys s := by
  induction h with
  | init => exact Reachable.init
  | step s s' x _ _ hst ih =>
    rcases step_cases hst with ⟨a, _, ha⟩ | ⟨_, rfl⟩
    · exact Reachable.step s s' a ih (mem_acts a) ha
    · exact ih

def parseEv (s : String) : Option Ev :=
  match s.splitOn ":" with
  | ["listener"] => some .listener
  | ["isdone", b] => some (.seeIsDone (b == "1"))
  | ["closed", b] => some (.seeClosed (b == "1"))
  | ["got"] => some .got
  | ["cancel"] => some .cancel
  | _ => none

end Failsafe.Conc.TraceFuture
