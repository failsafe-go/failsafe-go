import Failsafe.ExecBodies
import Failsafe.Breaker
import Failsafe.Generated.XBreaker
/-! # GEN tie: the circuit breaker's `recordResult` / `recordSuccess` / `recordFailure` (circuitbreaker.go), regenerated from /repo on every check, equal the reference definitions for every instantiation — and the breaker model's `record` is that composition. -/
namespace Failsafe.Tie.XBreaker
open Failsafe.ExecBodies

theorem tie_brkRecordSuccess {σ : Type} (ops : BrkOps σ) (s : σ) : Generated.XBreaker.brkRecordSuccessGen ops s = brkRecordSuccess ops s := rfl
theorem tie_brkRecordFailure {σ : Type} (ops : BrkOps σ) (s : σ) (e : Bool) : Generated.XBreaker.brkRecordFailureGen ops s e = brkRecordFailure ops s e := rfl
theorem tie_brkRecordResult {σ : Type} (ops : BrkOps σ) (s : σ) (f : Bool) : Generated.XBreaker.brkRecordResultGen ops s f = brkRecordResult ops s f := rfl

/-- the breaker model's operations: record into the current state's statistics; check the thresholds -/
def modelOps (c : Breaker.Cfg) (now : Int) : BrkOps Breaker.B :=
  { statsRecord := fun b v => { b with stats := b.stats.record now v }, check := fun b ve => Breaker.check c b now ve }

/-- **`Breaker.record` (the definition the C03 / C04 theorems are about) is the code's record-then-check**, with the execution
handed to the check exactly on the failure path that came through an execution -/
theorem model_record_is_the_codes (c : Breaker.Cfg) (b : Breaker.B) (now : Int) (viaExec : Bool) :
    Breaker.record c b now true = brkRecordSuccess (modelOps c now) b ∧
    Breaker.record c b now false viaExec = brkRecordFailure (modelOps c now) b viaExec := ⟨rfl, rfl⟩

end Failsafe.Tie.XBreaker
