import Failsafe.Breaker
import Failsafe.BreakerKernels
import Failsafe.Generated.Breaker
import Failsafe.Tie.Basic
/-!
# GEN tie for the circuit breaker: decision kernels regenerated from /repo equal the model's.
(`timedStats.currentBucket` — pointer aliasing inside a loop — is not translated; it is tied by DIFF only.)
-/
namespace Failsafe.Tie.Breaker
open Failsafe.Breaker Failsafe.BreakerKernels

theorem tie_closedCheck (c : Cfg) (st : Stats) (d : Dec) :
    Generated.Breaker.closedCheck c st d = (if closedShouldOpen c st then decOpen d () else d) := by
  simp only [Generated.Breaker.closedCheck, closedShouldOpen]
  by_cases h1 : st.exec ≥ c.fet <;> simp [h1]

theorem tie_halfOpenCheck (c : Cfg) (st : Stats) (d : Dec) :
    Generated.Breaker.halfOpenCheck c st d =
      (let dec := halfOpenDecision c st
       let d1 := if dec.1 then decClose d else if dec.2 then decOpen d () else d
       { d1 with permits := d1.permits + 1 }) := by
  simp only [Generated.Breaker.halfOpenCheck, halfOpenDecision]
  by_cases h1 : c.st = 0 <;> by_cases h2 : c.frt = 0 <;> simp [h1, h2]

theorem tie_openTry (start delay now : Int) (delegated : Bool) (d : Dec) :
    Generated.Breaker.openTry start delay now delegated d =
      (if now - start ≥ delay then (delegated, decHalfOpen d) else (false, d)) := by
  simp only [Generated.Breaker.openTry, Tie.ite_decide]

/-- the model's `tryAcquire` in the open state is this kernel followed by the half-open state's own `tryAcquirePermit` -/
theorem model_openTry (c : Cfg) (b : B) (now : Int) (hb : b.tag = .opened) :
    (tryAcquire c b now).2 =
      (Generated.Breaker.openTry b.start b.delay now
        (Generated.Breaker.halfOpenTry { permits := halfOpenCap c }).1 {}).1 := by
  rw [tie_openTry]
  unfold tryAcquire transition Generated.Breaker.halfOpenTry
  simp only [hb]
  by_cases h : now - b.start ≥ b.delay
  · by_cases hc : halfOpenCap c > 0 <;> simp [h, hc]
  · simp [h]

theorem tie_openRemaining (b : B) (now : Int) (hb : b.tag = .opened) :
    Generated.Breaker.openRemaining b.start b.delay now = remaining b now := by
  simp only [Generated.Breaker.openRemaining, remaining, hb]

theorem tie_halfOpenTry (b : B) (c : Cfg) (now : Int) (hb : b.tag = .halfOpen) :
    (Generated.Breaker.halfOpenTry { permits := b.permits }).1 = (tryAcquire c b now).2 ∧
    (Generated.Breaker.halfOpenTry { permits := b.permits }).2.permits = (tryAcquire c b now).1.permits := by
  simp only [Generated.Breaker.halfOpenTry, tryAcquire, hb, Tie.ite_decide]
  split <;> exact ⟨rfl, rfl⟩

theorem tie_closedCap : Generated.Breaker.closedCapGen = closedCap := by
  funext c
  simp only [Generated.Breaker.closedCapGen, closedCap, bne_iff_ne]

theorem tie_halfOpenCap : Generated.Breaker.halfOpenCapGen = halfOpenCap := by
  funext c
  simp only [Generated.Breaker.halfOpenCapGen, halfOpenCap]
  by_cases h1 : c.stc = 0 <;> by_cases h2 : c.fet = 0 <;> simp [h1, h2]

theorem tie_setNext (r : Ring) (v : Bool) : (Generated.Breaker.setNextGen r v).2 = setNext r v := by
  simp only [Generated.Breaker.setNextGen, setNext, ringTest, ringSetTo]
  by_cases h1 : r.occ < r.size <;> by_cases hb : r.bits[r.head]?.getD false = true <;> by_cases hv : v = true <;>
    simp [h1, hb, hv]

theorem tie_failureRate (r : Ring) : Generated.Breaker.countingFailureRate r = pct r.fail r.occ := by
  simp only [Generated.Breaker.countingFailureRate, pct, floatToNat, beq_iff_eq]

theorem tie_successRate (r : Ring) : Generated.Breaker.countingSuccessRate r = pct r.succ r.occ := by
  simp only [Generated.Breaker.countingSuccessRate, pct, floatToNat, beq_iff_eq]

/-! the statistics the thresholds are computed from: the counters `Stats.exec / fails / succs / frate / srate` of the model are the
getters of the two statistics implementations, for the ring and for the time window alike -/
theorem tie_countingCounts (r : Ring) :
    Generated.Breaker.countingExecutionCount r = (Stats.ring r).exec ∧ Generated.Breaker.countingFailureCount r = (Stats.ring r).fails ∧
    Generated.Breaker.countingSuccessCount r = (Stats.ring r).succs := ⟨rfl, rfl, rfl⟩

theorem tie_timedCounts (t : Timed) :
    Generated.Breaker.timedExecutionCount t = (Stats.timed t).exec ∧ Generated.Breaker.timedFailureCount t = (Stats.timed t).fails ∧
    Generated.Breaker.timedSuccessCount t = (Stats.timed t).succs := ⟨rfl, rfl, rfl⟩

theorem tie_timedFailureRate (t : Timed) : Generated.Breaker.timedFailureRate t = (Stats.timed t).frate := by
  simp only [Generated.Breaker.timedFailureRate, Stats.frate, Stats.fails, Stats.exec, pct, floatToNat, beq_iff_eq]
  -- the two sides print alike; they differ in the `Decidable` instance of the rewritten test, which `rfl` identifies
  rfl

theorem tie_timedSuccessRate (t : Timed) : Generated.Breaker.timedSuccessRate t = (Stats.timed t).srate := by
  simp only [Generated.Breaker.timedSuccessRate, Stats.srate, Stats.succs, Stats.exec, pct, floatToNat, beq_iff_eq]
  rfl

end Failsafe.Tie.Breaker
