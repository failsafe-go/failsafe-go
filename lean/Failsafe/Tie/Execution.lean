import Failsafe.ExecKernels
import Failsafe.Generated.Execution
/-! # GEN tie: the statistics getters of `execution.go` regenerated from /repo equal the documented definitions. -/
namespace Failsafe.Tie.Execution
open Failsafe.ExecKernels

theorem tie_isFirstAttempt : Generated.Execution.isFirstAttemptGen = isFirstAttempt := rfl
theorem tie_isRetry : Generated.Execution.isRetryGen = isRetry := rfl
theorem tie_attempts (c : Counters) : Generated.Execution.attemptsGen c = c.attempts := rfl
theorem tie_retries (c : Counters) : Generated.Execution.retriesGen c = c.retries := rfl
theorem tie_hedges (c : Counters) : Generated.Execution.hedgesGen c = c.hedges := rfl
theorem tie_executions (c : Counters) : Generated.Execution.executionsGen c = c.executions := rfl

end Failsafe.Tie.Execution
