import Failsafe.ExecBodies
import Failsafe.Generated.XBulkhead
/-! # GEN tie: the bulkhead executor's `PreExecute`, regenerated from /repo on every check, equals the reference definition of `Failsafe/ExecBodies.lean` for every state and argument. -/
namespace Failsafe.Tie.XBulkhead
open Failsafe.ExecBodies

theorem tie_bulkheadPre (s : BSt) (acq : Option Err) (canc : Bool × Option PR) (onFull : Option Unit) :
    Generated.XBulkhead.bulkheadPreGen s acq canc onFull = bulkheadPre s acq canc onFull := by
  simp only [Generated.XBulkhead.bulkheadPreGen, bulkheadPre, errIsFull, failOpt]
  cases acq with
  | none => simp
  | some e => cases h : e.is Err.FULL <;> cases hc : canc.1 <;> cases onFull <;> simp [h]

end Failsafe.Tie.XBulkhead
