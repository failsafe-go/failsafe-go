import Failsafe.ExecBodies
import Failsafe.Generated.XBase
/-! # GEN tie: `policy.BaseExecutor.PostExecute`, regenerated from /repo on every check, equals the reference definition of `Failsafe/ExecBodies.lean` for every state and argument. -/
namespace Failsafe.Tie.XBase
open Failsafe.ExecBodies

theorem tie_postExecute {σ : Type} (isF : PR → Bool) (fv : σ → PR → PR) (fs : σ → PR → σ) (os : σ → PR → σ) (s : σ) (er : PR) :
    Generated.XBase.postExecuteGen isF fv fs os s er = postExecute isF (fun s a => (fv s a, fs s a)) os s er := rfl

end Failsafe.Tie.XBase
