import Failsafe.ExecBodies
import Failsafe.Generated.XAdmit
/-! # GEN tie: the circuit breaker executor's `PreExecute` / `OnSuccess` / `OnFailure` and the rate limiter executor's `Apply`, regenerated from /repo on every check, equal the reference definitions for every instantiation of the operations they are made of. -/
namespace Failsafe.Tie.XAdmit
open Failsafe.ExecBodies

theorem tie_breakerPre {σ : Type} (ops : AdmitOps σ) (s : σ) : Generated.XAdmit.breakerPreGen ops s = breakerPre ops s := by
  simp only [Generated.XAdmit.breakerPreGen, breakerPre]
  cases ops.tryV s <;> simp

theorem tie_breakerOnSuccess {σ : Type} (ops : AdmitOps σ) (s : σ) (r : PR) :
    Generated.XAdmit.breakerOnSuccessGen ops s r = breakerOnSuccess ops s r := rfl

theorem tie_breakerOnFailure {σ : Type} (ops : AdmitOps σ) (s : σ) (r : PR) :
    Generated.XAdmit.breakerOnFailureGen ops s r = breakerOnFailure ops s r := rfl

theorem tie_limiterApply {σ : Type} (ops : LimitOps σ) (s : σ) : Generated.XAdmit.limiterApplyGen ops s = limiterApply ops s := by
  simp only [Generated.XAdmit.limiterApplyGen, limiterApply, failE, errIsRate]
  cases h : ops.acquireV s with
  | none => simp
  | some e => cases ops.hasOnExceeded <;> cases e.is Err.RATE <;> simp

end Failsafe.Tie.XAdmit
