/-! What the GEN tie proofs share: the translator writes Go's `bool` conditions as `Bool`s and `!= nil` as `!= none`; the
reference definitions have `Prop`s and `isSome`. -/
namespace Failsafe.Tie

/-- a `Bool` test under `if` is the proposition it decides -/
theorem ite_decide {α} (p : Prop) [Decidable p] (a b : α) :
    (if decide p = true then a else b) = if p then a else b := by
  by_cases h : p <;> simp only [h, decide_true, decide_false, if_true, if_false, Bool.false_eq_true]

/-- `x != nil` on an optional value -/
theorem bne_none {α} [BEq α] (o : Option α) : (o != none) = o.isSome := by cases o <;> rfl

end Failsafe.Tie
