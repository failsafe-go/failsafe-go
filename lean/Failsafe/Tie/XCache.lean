import Failsafe.ExecBodies
import Failsafe.Generated.XCache
import Failsafe.Tie.Basic
/-! # GEN tie: the cache executor's `getCacheKey` / `PreExecute` / `PostExecute`, regenerated from /repo on every check, equals the reference definition of `Failsafe/ExecBodies.lean` for every state and argument. -/
namespace Failsafe.Tie.XCache
open Failsafe.ExecBodies

theorem tie_getCacheKey (c : CCfg) : Generated.XCache.getCacheKeyGen c = getCacheKey c := by
  unfold Generated.XCache.getCacheKeyGen getCacheKey
  rcases c.ctxRaw with _ | _ | _ <;> rfl

/-- the source nests "has a key" and "found" where the reference looks up under the first and matches on the answer -/
theorem tie_cachePre (c : CCfg) (s : CSt) : Generated.XCache.cachePreGen c s = cachePre c s := by
  simp only [Generated.XCache.cachePreGen, cachePre, bne_none]
  generalize (getCacheKey c != "") = hasKey
  generalize cacheGet s _ = found
  cases hasKey <;> cases found <;> rfl

theorem tie_cachePost (c : CCfg) (s : CSt) (n : Nat) (ca : Bool) (er : PR) :
    Generated.XCache.cachePostGen c s n ca er = cachePost c s n ca er := by
  simp only [Generated.XCache.cachePostGen, cachePost, bne_none, Option.beq_none]
  generalize (getCacheKey c != "") = hasKey
  generalize (_ || ca) = should
  cases hasKey <;> cases should <;> rfl

end Failsafe.Tie.XCache
