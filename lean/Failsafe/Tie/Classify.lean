import Failsafe.Classify
import Failsafe.ClassifyKernels
import Failsafe.Generated.Classify
import Failsafe.Tie.Basic
/-! # GEN tie: classification kernels and the flag algebra regenerated from /repo equal the model's. -/
namespace Failsafe.Tie.Classify
open Failsafe.Classify Failsafe.ClassifyKernels

theorem tie_isFailure (b : Built) (o : Outcome) : Generated.Classify.isFailureGen b o = isFailureB false b o := by
  simp only [Generated.Classify.isFailureGen, isFailureB, appliesToAny, bne_none, beq_iff_eq]

theorem tie_isAbortable (cs : List Cond) (o : Outcome) : Generated.Classify.isAbortableGen cs o = isAbortable cs o := rfl

/-- a result condition only matches outcomes without an error (the D2 repair is in the regenerated closure) -/
theorem tie_handleResult (v : Int) (o : Outcome) :
    Generated.Classify.handleResultClosure v o = (Cond.result v).eval false o := by
  simp only [Generated.Classify.handleResultClosure, Cond.eval, valEq]
  cases o.err <;> simp

theorem tie_abortResult (v : Int) (o : Outcome) :
    Generated.Classify.abortResultClosure v o = (Cond.result v).eval false o := by
  simp only [Generated.Classify.abortResultClosure, Cond.eval, valEq]
  cases o.err <;> simp

theorem tie_handleErrors (t : Nat) (o : Outcome) :
    Generated.Classify.handleErrorsClosure t o = (Cond.errIs t).eval false o := rfl

theorem tie_abortErrors (t : Nat) (o : Outcome) :
    Generated.Classify.abortErrorsClosure t o = (Cond.errIs t).eval false o := rfl

theorem tie_handleTypes (t : Nat) (o : Outcome) :
    Generated.Classify.handleTypesClosure t o = (Cond.errType t).eval false o := rfl

theorem tie_withDone : Generated.Classify.withDoneGen = PR.withDone := rfl

theorem tie_withFailure : Generated.Classify.withFailureGen = PR.withFailure := rfl

end Failsafe.Tie.Classify
