import Failsafe.Limiter
import Failsafe.GoArith
import Failsafe.Generated.Limiter
import Failsafe.Tie.Basic
/-!
# GEN tie for the rate limiter: the kernels regenerated from /repo equal the hand-written model.
Every theorem about `Failsafe.Limiter.*` is thereby a theorem about what the source says now.
-/
namespace Failsafe.Tie.Limiter
open Failsafe.Limiter

theorem tie_exceeds : Generated.Limiter.exceedsMaxWaitTime = exceeds := rfl

theorem tie_roundDown : Generated.Limiter.roundDownGen = roundDown := rfl

/-- the source assigns the whole state in each branch of the roll's inner `if`; the model has the `if` in the field -/
theorem ite_avail (p : Prop) [Decidable p] (x y n : Int) :
    (if p then ({ avail := x, cur := n } : BSt) else { avail := y, cur := n }) =
      { avail := if p then x else y, cur := n } := by
  split <;> rfl

/- The two texts have the same branching; they differ in `Bool` tests against `Prop` tests, `0 * 1e9` against `0`, and
where the roll's inner `if` sits. Rewriting those away leaves the same term on both sides, up to the `Decidable`
instances of conditions that were rewritten inside, which `rfl` identifies. -/
theorem tie_bursty : Generated.Limiter.burstyAcquire = burstyAcquire := by
  funext c s now req mw
  simp only [Generated.Limiter.burstyAcquire, burstyAcquire, roll, waitFor, goDiv, goMod,
    ite_decide, beq_iff_eq, Int.zero_mul, ite_avail]
  rfl

theorem tie_smooth : Generated.Limiter.smoothAcquire = smoothAcquire := by
  funext c s now k mw
  simp only [Generated.Limiter.smoothAcquire, smoothAcquire, roundDown, ite_decide]

end Failsafe.Tie.Limiter
