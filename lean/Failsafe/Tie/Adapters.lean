import Failsafe.Adapters
import Failsafe.Generated.Adapters
import Failsafe.Generated.Facts
/-! # GEN tie: the HTTP / gRPC retry predicates and the Retry-After delay function regenerated from /repo equal the model's.

The source is a cascade of early returns where the model is one Boolean expression or one match: in each case of what is tested
both evaluate to the same value. -/
namespace Failsafe.Tie.Adapters
open Failsafe.Adapters

theorem tie_retryHandle (resp : Option Resp) (err : Option HErr) :
    Generated.Adapters.retryHandleGen resp err = retryHandle resp err := by
  rcases err with _ | ⟨us, u, c, r, ua, cn, dl⟩
  · rcases resp with _ | r
    · rfl
    · simp only [Generated.Adapters.retryHandleGen, retryHandle, retryableStatus, statusOf]
      by_cases h1 : r.status = 429 <;> by_cases h2 : r.status ≥ 500 <;> by_cases h3 : r.status = 501 <;> simp [h1, h2, h3]
  · cases us <;> cases u <;> cases c <;> cases r <;> cases ua <;> rfl

theorem tie_delayFn (resp : Option Resp) : Generated.Adapters.delayFnGen resp = delayFn resp := by
  rcases resp with _ | ⟨st, ra⟩
  · rfl
  · simp only [Generated.Adapters.delayFnGen, delayFn, statusOf]
    generalize (st == 429 || st == 503) = limited
    cases limited <;> cases ra <;> rfl

theorem tie_grpcHandle (table : List Nat) (err : Option GErr) :
    Generated.Adapters.grpcHandleGen table err = grpcHandle table err := by
  rcases err with _ | _ | _
  · rfl
  · simp [Generated.Adapters.grpcHandleGen, grpcHandle, gCode, gIsStatus]
  · rfl

/-- FACTS: the code table of the gRPC retry policy is {DeadlineExceeded, ResourceExhausted, Unavailable} -/
theorem grpc_table : Generated.Facts.grpcRetryableCodes = [4, 8, 14] := rfl

end Failsafe.Tie.Adapters
