import Failsafe.ExecBodies
import Failsafe.Generated.XFallback
import Failsafe.Tie.Basic
/-! # GEN tie: the fallback executor's `Apply`, regenerated from /repo on every check, equals the reference definition of `Failsafe/ExecBodies.lean` for every state and argument. -/
namespace Failsafe.Tie.XFallback
open Failsafe.ExecBodies

/-- the source tests `!success` and asks `canc` with the flag `fCallFn` has just set; the reference tests `success` and asks `canc true` -/
theorem tie_fallbackApply (s : FSt) (inner : PR) (post : Unit → PR → PR) (canc : Bool → Bool × PR) (fo : Outcome) (ff : Bool) (oe : Option Unit) :
    Generated.XFallback.fallbackApplyGen s inner post canc fo ff oe = fallbackApply s inner post canc fo ff oe := by
  simp only [Generated.XFallback.fallbackApplyGen, fallbackApply, bne_none]
  cases (post () inner).success <;> cases (canc s.fnCalled).1 <;> rfl

end Failsafe.Tie.XFallback
