import Failsafe.ExecBodies
import Failsafe.Generated.XDelayable
/-! # GEN tie: `policy.BaseDelayablePolicy.ComputeDelay` regenerated from /repo equals the reference definition: the delay function's own answer is handed on untouched (in particular its `-1` = "use the configured delay", which the breaker, the retry policy and the hedge policy all test for). -/
namespace Failsafe.Tie.XDelayable
open Failsafe.ExecBodies

theorem tie_computeDelay (exec : Option Unit) (fn : Option Int) : Generated.XDelayable.computeDelayGen exec fn = computeDelay exec fn := by
  cases exec <;> cases fn <;> rfl

/-- a delay function that declines is indistinguishable from none -/
theorem declining_is_none (exec : Option Unit) : computeDelay exec (some (-1)) = computeDelay exec none := by
  cases exec <;> rfl

end Failsafe.Tie.XDelayable
