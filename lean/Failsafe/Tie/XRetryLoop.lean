import Failsafe.ExecBodies
import Failsafe.Generated.XRetryLoop
import Failsafe.Tie.Basic
/-! # GEN tie: one iteration of the retry loop (`retrypolicy.executor.Apply`), regenerated from /repo on every check, equals the reference definition for every instantiation of the operations it is made of. -/
namespace Failsafe.Tie.XRetryLoop
open Failsafe.ExecBodies

/-- the steps and their order are the same term on both sides; the source tests the two optional cancel results (`RecordResult`,
`InitializeRetry`) with `!= nil` where the reference matches on them -/
theorem tie_retryIter {σ : Type} (ops : LoopOps σ) (s : σ) : Generated.XRetryLoop.retryIterGen ops s = retryIter ops s := by
  simp only [Generated.XRetryLoop.retryIterGen, retryIter, bne_none]
  generalize ops.recordV _ _ = recorded
  generalize ops.initV _ = initialised
  cases recorded <;> cases initialised <;> rfl

end Failsafe.Tie.XRetryLoop
