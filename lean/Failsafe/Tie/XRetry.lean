import Failsafe.ExecBodies
import Failsafe.Generated.XRetry
import Failsafe.Tie.Basic
/-! # GEN tie: `retrypolicy.executor.OnFailure`, regenerated from /repo on every check, equals the reference definition of `Failsafe/ExecBodies.lean` for every state and argument. -/
namespace Failsafe.Tie.XRetry
open Failsafe.ExecBodies

theorem retryExceeded_fold (c : RCfg) (failed elapsed : Int) :
    ((c.maxRetries != -1 && decide (failed > c.maxRetries)) || (c.maxDuration != 0 && decide (elapsed > c.maxDuration))) =
      retryExceeded c failed elapsed := rfl

/-- The source stores the exceeded flag in the executor, reads it back, and nests under it the two tests that the reference conjoins
with it: the same in each case of the flag. -/
theorem tie_retryOnFailure (c : RCfg) (s : RSt) (elapsed : Int) (abortable : Bool) (result : PR) :
    Generated.XRetry.retryOnFailureGen c s elapsed abortable result = retryOnFailure c s elapsed abortable result := by
  simp only [Generated.XRetry.retryOnFailureGen, retryOnFailure]
  -- folded before the record projections under its `decide` are reduced: `simp` leaves the `Decidable` instances as they were
  simp only [retryExceeded_fold]
  simp only [rBaseOnFailure, rOnAbort, rOnRetriesExceeded, RSt.emit, bne_none]
  rcases Bool.eq_false_or_eq_true (retryExceeded c (s.failed + 1) elapsed) with h | h <;>
    simp only [h, Bool.true_and, Bool.false_and, Bool.false_eq_true, if_true, if_false, apply_ite RSt.exceeded, ite_self]

end Failsafe.Tie.XRetry
