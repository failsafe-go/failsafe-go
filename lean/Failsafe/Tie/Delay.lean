import Failsafe.Delay
import Failsafe.DelayKernels
import Failsafe.Generated.Delay
/-! # GEN tie: retry delay kernels regenerated from /repo equal the model's. -/
namespace Failsafe.Tie.Delay
open Failsafe.Delay Failsafe.DelayKernels

theorem tie_adjustForMaxDuration : Generated.Delay.adjustForMaxDurationGen = adjustForMaxDuration := by
  funext c d e
  simp only [Generated.Delay.adjustForMaxDurationGen, adjustForMaxDuration, bne_iff_ne]

theorem tie_randomDelay (d j : Int) (r : Float) : Generated.Delay.randomDelayGen d j r = randomDelay d j r := rfl
theorem tie_randomDelayFactor (d : Int) (jf r : Float32) : Generated.Delay.randomDelayFactorGen d jf r = randomDelayFactor d jf r := rfl
theorem tie_randomInRange (lo hi : Int) (r : Float) : Generated.Delay.randomInRangeGen lo hi r = randomInRange lo hi r := rfl

theorem tie_adjustForJitter (c : Cfg) (d : Int) (r64 : Float) (r32 : Float32) :
    Generated.Delay.adjustForJitterGen c d r64 r32 =
      adjustForJitter c d (jitterAddend c.jitter r64) (jitterByFactor d c.jitterFactor r32) := by
  simp only [Generated.Delay.adjustForJitterGen, adjustForJitter, randomDelay, randomDelayFactor, bne_iff_ne]

/-- `getDelay`: delay function value if it returned one, else fixed/backoff/random; jitter only for non-zero delays; then the
max-duration clamp. The jittered value is **not** written back to the backoff state (no assignment to `lastDelay` here). -/
theorem tie_getDelay (c : Cfg) (computed fr : Int) (jit : Int → Int) (elapsed : Int) :
    Generated.Delay.getDelayGen c computed fr jit elapsed =
      adjustForMaxDuration c (let d := if computed ≠ -1 then computed else fr; if d ≠ 0 then jit d else d) elapsed := by
  simp only [Generated.Delay.getDelayGen, bne_iff_ne]

theorem tie_fixedOrRandom (c : Cfg) (last retries : Int) (rnd : Float) :
    ((Generated.Delay.fixedOrRandomGen c ⟨last⟩ retries rnd).1, (Generated.Delay.fixedOrRandomGen c ⟨last⟩ retries rnd).2.last) =
      fixedOrRandom c last retries (randomInRange c.delayMin c.delayMax rnd) := by
  simp only [Generated.Delay.fixedOrRandomGen, fixedOrRandom, scale, toDur, ToDur.toDur, id,
    bne_iff_ne, Bool.and_eq_true, decide_eq_true_eq, ne_eq, and_assoc]
  -- the three `if`s of the source, in its order
  split
  · split <;> rfl
  · split <;> rfl

end Failsafe.Tie.Delay
