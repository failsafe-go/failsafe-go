import Failsafe.ExecBodies
import Failsafe.Generated.XExecution
import Failsafe.Tie.Basic
/-! # GEN tie: the mutex-protected methods and copies of `execution.go`, regenerated from /repo on every check, equals the reference definition of `Failsafe/ExecBodies.lean` for every state and argument.

The generated bodies assign field by field and test `!= none`, the reference definitions build the record once and match: in
each case of what is tested the two are the same term. -/
namespace Failsafe.Tie.XExecution
open Failsafe.ExecBodies

theorem tie_isCanc (s : XSt) : Generated.XExecution.isCancGen s = isCanc s := by
  unfold Generated.XExecution.isCancGen isCanc
  cases s.ctxErr <;> cases s.cell <;> rfl

theorem tie_recordResult (s : XSt) (r : Option PR) : Generated.XExecution.recordResultGen s r = recordResult s r := by
  cases r <;> rfl

theorem tie_initializeRetry (s : XSt) : Generated.XExecution.initializeRetryGen s = initializeRetry s := by
  unfold Generated.XExecution.initializeRetryGen initializeRetry
  cases (isCanc s).1
  · -- `retries` is bumped under the same test, once the generated `addAttempts` is seen through
    by_cases h : s.attempts + 1 > 1 <;>
      simp only [addAttempts, addRetries, decide_eq_true_eq, h, if_true, if_false, Bool.false_eq_true]
  · rfl

theorem tie_cancel (s : XSt) (r : Option PR) : Generated.XExecution.cancelGen s r = cancel s r := by
  unfold Generated.XExecution.cancelGen cancel
  cases r <;> cases (isCanc s).1 <;> cases s.cancelFunc <;> rfl

theorem tie_copyForHedge (s : XSt) : Generated.XExecution.copyForHedgeGen s = copyForHedge s := rfl

theorem tie_record (s : XSt) : Generated.XExecution.recordGen s = record s := rfl

theorem tie_lastError (s : XSt) : Generated.XExecution.lastErrorGen s = lastError s := by
  unfold Generated.XExecution.lastErrorGen lastError
  cases s.lastErr <;> cases s.ctxErr <;> rfl

theorem tie_copyWithResult (s : XSt) (r : Option PR) : Generated.XExecution.copyWithResultGen s r = copyWithResult s r := by
  cases r <;> rfl

theorem tie_isCanceledFlag (s : XSt) : Generated.XExecution.isCanceledFlagGen s = isCanceledFlag s :=
  Tie.bne_none s.ctxErr
theorem tie_isHedgeFlag (s : XSt) : Generated.XExecution.isHedgeFlagGen s = isHedgeFlag s := rfl
theorem tie_lastResult (s : XSt) : Generated.XExecution.lastResultGen s = lastResult s := rfl

end Failsafe.Tie.XExecution
