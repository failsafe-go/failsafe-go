/-! Lists and residues: what the two statistics windows of the breaker (`Lemmas/Ring`, `Lemmas/Timed`) both need.
Nothing here mentions the model (the namespace is the one its two users work in). -/
namespace Failsafe.Breaker

theorem getD_set {α} (l : List α) (i k : Nat) (x d : α) :
    (l.set i x).getD k d = if i = k ∧ k < l.length then x else l.getD k d := by
  rw [List.getD_eq_getElem?_getD, List.getD_eq_getElem?_getD, List.getElem?_set]
  by_cases h : i = k
  · subst h
    by_cases hi : i < l.length <;> simp [hi]
  · simp [h]

theorem getD_replicate_self {α} (n k : Nat) (d : α) : (List.replicate n d).getD k d = d := by
  rw [List.getD_eq_getElem?_getD, List.getElem?_replicate]; split <;> rfl

theorem sum_map_set {α} (f : α → Nat) (l : List α) (i : Nat) (x d : α) (h : i < l.length) :
    ((l.set i x).map f).sum + f (l.getD i d) = (l.map f).sum + f x := by
  induction l generalizing i with
  | nil => exact absurd h (Nat.not_lt_zero _)
  | cons y ys ih =>
    cases i with
    | zero => simp only [List.set_cons_zero, List.map_cons, List.sum_cons, List.getD_cons_zero]; omega
    | succ k =>
      have := ih k (Nat.lt_of_succ_lt_succ h)
      simp only [List.set_cons_succ, List.map_cons, List.sum_cons, List.getD_cons_succ]; omega

theorem sum_map_set_add {α} {f : α → Nat} {l : List α} {i : Nat} {x : α} (d : α) {c : Nat} (h : i < l.length)
    (hx : f x = f (l.getD i d) + c) : ((l.set i x).map f).sum = (l.map f).sum + c := by
  have := sum_map_set f l i x d h
  omega

/-- fewer than `size` apart, two numbers have different residues -/
theorem mod_inj_window {size k n : Nat} (hk : k < n) (hw : n < k + size) : k % size ≠ n % size := by
  intro hm
  have h0 : (n - k) % size = 0 := Nat.sub_mod_eq_zero_of_mod_eq hm.symm
  rw [Nat.mod_eq_of_lt (Nat.sub_lt_left_of_lt_add (Nat.le_of_lt hk) hw)] at h0
  exact Nat.sub_ne_zero_of_lt hk h0

/-- the residues of `a+1 … a+min n d` are those of `a+1 … a+d`: `n` consecutive numbers already have them all -/
theorem residues_min {n : Nat} (hn : 0 < n) (a d k : Nat) :
    (∃ m, m < min n d ∧ (a + m + 1) % n = k) ↔ ∃ s, a < s ∧ s ≤ a + d ∧ s % n = k := by
  constructor
  · rintro ⟨m, hm, he⟩
    exact ⟨a + m + 1, Nat.lt_succ_of_le (Nat.le_add_right a m), Nat.add_le_add_left (Nat.lt_min.1 hm).2 a, he⟩
  · rintro ⟨s, h1, h2, he⟩
    refine ⟨(s - a - 1) % n, Nat.lt_min.2 ⟨Nat.mod_lt _ hn, Nat.lt_of_le_of_lt (Nat.mod_le _ _) (by omega)⟩, ?_⟩
    -- `a + (s - a - 1) % n + 1` has the residue of `a + 1 + (s - a - 1) = s`
    rw [Nat.add_right_comm, Nat.add_mod_mod, Nat.add_comm, Nat.sub_sub, Nat.sub_add_cancel h1]
    exact he

end Failsafe.Breaker
