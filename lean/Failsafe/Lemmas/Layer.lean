import Failsafe.Exec
/-!
# The policy layers, one step at a time

Which fields of the run state the model's helpers touch; `Answers`, the form in which a property of what a layer returns is stated
and proved branch by branch; equations that say what one round of the retry loop and of the hedge loop does; and the theorem that
turns a predicate every such step preserves into an invariant of every policy layer.
-/
namespace Failsafe.Exec
open Failsafe.Classify

theorem drainBreaker_frame (r : Run) (id pos : Nat) :
    ∃ l bs, drainBreaker r id pos = { r with log := l, w := { r.w with breakers := bs } } := by
  unfold drainBreaker
  split
  · exact ⟨_, _, rfl⟩
  · rename_i b _
    suffices ∀ (es : List Breaker.Event) (r : Run), ∃ l,
        es.foldl (fun r ev => { r with log := r.log ++ [⟨breakerEventName ev, pos, 0, 0, none⟩] }) r = { r with log := l } by
      obtain ⟨l, h⟩ := this b.events r
      rw [h]; exact ⟨_, _, rfl⟩
    intro es
    induction es with
    | nil => intro r; exact ⟨_, rfl⟩
    | cons e es ih => intro r; obtain ⟨l, h⟩ := ih { r with log := r.log ++ [⟨breakerEventName e, pos, 0, 0, none⟩] }; exact ⟨l, h⟩

/-- the result of `OnFailure` of the retry executor: `ExceededError` wrapping the failure once the budget or the max duration is
used up (the failure itself with `ReturnLastFailure`), else the failure, final iff it aborts or no retry is allowed -/
theorem retryOnFailure_fst (pos : Nat) (m : Int) (rl : Bool) (a : List Cond) (res : PR) (r : Run) :
    let exc : Bool := decide (m ≠ -1 ∧ ((getFailed r pos + 1 : Nat) : Int) > m) || durExceeded pos r
    (retryOnFailure pos m rl a res r).1 =
      if exc && !rl then
        failureResult (match res.err with | some e => .exceededE res.val e | none => .exceededV res.val)
      else res.withDone (isAbortable a res.outcome || !(!isAbortable a res.outcome && !exc && decide (m = -1 ∨ m > 0))) false :=
  -- the first component of the definition's final `if`; its `let`s unfold by `rfl`
  apply_ite Prod.fst ..

/-- … and what it leaves behind: its events, the failure counted, `retriesExceeded` set when the budget or the max duration is used up -/
theorem retryOnFailure_snd (pos : Nat) (m : Int) (rl : Bool) (a : List Cond) (res : PR) (r : Run) :
    (retryOnFailure pos m rl a res r).2 =
      let exc : Bool := decide (m ≠ -1 ∧ ((getFailed r pos + 1 : Nat) : Int) > m) || durExceeded pos r
      let ab := isAbortable a res.outcome
      let ev (n : String) : Event := ⟨n, pos, r.attempts, r.execs, some res.outcome⟩
      { r with
        log := r.log ++ [ev "rp.onFailure"] ++ (if ab then [ev "rp.onAbort"] else []) ++ (if exc && !ab then [ev "rp.onRetriesExceeded"] else []),
        failed := (pos, getFailed r pos + 1) :: r.failed.filter (·.1 != pos),
        exceeded := if exc then pos :: r.exceeded else r.exceeded } := by
  unfold retryOnFailure
  simp only
  have hg : getFailed (r.emitSeen "rp.onFailure" pos res.outcome) pos = getFailed r pos := rfl
  rw [hg]
  generalize (decide (m ≠ -1 ∧ ((getFailed r pos + 1 : Nat) : Int) > m) || durExceeded pos r) = exc
  generalize isAbortable a res.outcome = ab
  cases exc <;> cases ab <;> cases rl <;> simp [Run.emitSeen, setFailed]

theorem outcome_eq {p q : PR} (h1 : p.val = q.val) (h2 : p.err = q.err) : p.outcome = q.outcome := by
  simp [PR.outcome, h1, h2]

/-- `OnFailure` looks at nothing but the value and the error of the failure -/
theorem retryOnFailure_congr (pos : Nat) (m : Int) (rl : Bool) (a : List Cond) {p q : PR} (r : Run)
    (h1 : p.val = q.val) (h2 : p.err = q.err) : retryOnFailure pos m rl a p r = retryOnFailure pos m rl a q r := by
  have ho := outcome_eq h1 h2
  refine Prod.ext ?_ ?_
  · simp only [retryOnFailure_fst, ho, h1, h2, PR.withDone, Bool.false_and]
  · simp only [retryOnFailure_snd, ho]

/-- `P` holds of what a layer answers, if it answers. A proof walks the branches of the layer's equation in the order they are
written there, `.ite` taking the `then` branch first. A goal that has `l r = some (res, r')` as a hypothesis is brought into this
form by `revert res r'` and `show Answers _ _`. -/
def Answers (P : PR → Run → Prop) (o : Option (PR × Run)) : Prop := ∀ res r', o = some (res, r') → P res r'

namespace Answers
variable {P : PR → Run → Prop}

theorem none : Answers P none := fun _ _ h => nomatch h

theorem some {res : PR} {r' : Run} (h : P res r') : Answers P (some (res, r')) := fun _ _ e => by cases e; exact h

theorem self (o : Option (PR × Run)) : Answers (fun res r' => o = .some (res, r')) o := fun _ _ h => h

theorem ite {c : Prop} [Decidable c] {a b : Option (PR × Run)} (h1 : c → Answers P a) (h2 : ¬ c → Answers P b) :
    Answers P (if c then a else b) := by
  split
  · exact h1 ‹_›
  · exact h2 ‹_›

/-- a layer that runs `o` and goes on with `k` from what it answered: every `match inner r with | none => none | some (res, r) => …`
of the model has this shape -/
theorem bind {Q : PR → Run → Prop} {o : Option (PR × Run)} {k : PR → Run → Option (PR × Run)} :
    Answers Q o → (∀ res r, Q res r → Answers P (k res r)) →
      Answers P (match o with | .none => .none | .some (res, r) => k res r) := by
  intro ho hk
  cases o with
  | none => exact .none
  | some x => exact hk _ _ (ho _ _ rfl)

theorem map {f : PR × Run → PR × Run} {o : Option (PR × Run)} (h : Answers (fun res r' => P (f (res, r')).1 (f (res, r')).2) o) :
    Answers P (o.map f) := by
  cases o with
  | none => exact .none
  | some x => exact .some (h x.1 x.2 rfl)

end Answers

/-- a Timeout's timer fires on `r`: listener (once per scope), then `Cancel`; `extra` blocked invocations return -/
def Run.fire (r : Run) (extra : Nat) : Run :=
  let r := if r.cancelled then r else r.emit "to.onTimeoutExceeded" r.timeoutPos
  { r with cancelled := true, execs := r.execs + extra }

theorem Run.fire_frame (r : Run) (n : Nat) : ∃ l, r.fire n = { r with log := l, cancelled := true, execs := r.execs + n } := by
  unfold Run.fire; split <;> exact ⟨_, rfl⟩

/-- the function is entered: its event, then the scripted cancellation point -/
def Run.enter (r : Run) : Run := (r.emitSeen (if r.hedgeAttempt then "fnh" else "fn") 0 r.seenLast).trigger "fn"

theorem Run.enter_frame (r : Run) : ∃ l k e, r.enter = { r with log := l, seenAt := k, ext := e } := by
  obtain ⟨k, e, h⟩ := (r.emitSeen (if r.hedgeAttempt then "fnh" else "fn") 0 r.seenLast).trigger_frame "fn"
  exact ⟨_, k, e, h⟩

/-- an invocation consumes the head of the script -/
def Run.pop (r : Run) (it : Item) (rest : List Item) : Run :=
  { r with script := rest, inv := r.inv + 1, slept := r.slept + (if it.sleeps then 1 else 0), w := { r.w with now := r.w.now + it.adv } }

/-- the function wrapper succeeds on an empty script; otherwise it consumes the head of the script and returns its outcome, at once
or (a blocking outcome not yet released from outside) when the enclosing Timeout fires -/
theorem base_cases {r : Run} {res : PR} {r' : Run} (h : base r = some (res, r')) :
    (r.enter.script = [] ∧ res = fnResult 0 none ∧ r' = { r.enter with inv := r.enter.inv + 1, execs := r.enter.execs + 1 }) ∨
    ∃ it rest, r.enter.script = it :: rest ∧ res = fnResult it.val it.err ∧
      (r' = { r.enter.pop it rest with execs := (r.enter.pop it rest).execs + 1 } ∨ r' = (r.enter.pop it rest).fire 1) := by
  revert res r'
  show Answers _ (match r.enter.script with | [] => _ | it :: rest => _)
  split
  · exact .some (.inl ⟨‹_›, rfl, rfl⟩)
  · exact
      .ite (fun _ =>                                                   -- a blocking outcome:
        .ite (fun _ => .some (.inr ⟨_, _, ‹_›, rfl, .inl rfl⟩)) fun _ =>  --   released from outside
        .ite (fun _ => .none) fun _ =>                                 --   nothing will release it
        .some (.inr ⟨_, _, ‹_›, rfl, .inr rfl⟩))                        --   the Timeout fires
      fun _ => .some (.inr ⟨_, _, ‹_›, rfl, .inl rfl⟩)                  -- an instant one

/-- the state in which the retry loop waits out the delay once a retry is decided: `RecordResult`, `OnRetryScheduled` -/
def retryScheduled (pos : Nat) (x : PR × Run) : Run :=
  ({ x.2 with last := x.1.outcome }.emitLast "rp.onRetryScheduled" pos).trigger "rp.onRetryScheduled"

/-- `InitializeRetry`, `OnRetry` -/
def retryNext (pos : Nat) (r : Run) : Run :=
  { r with attempts := r.attempts + 1, retries := r.retries + 1 }.emitLast "rp.onRetry" pos

theorem retryScheduled_inv (pos : Nat) (x : PR × Run) : (retryScheduled pos x).inv = x.2.inv := by
  unfold retryScheduled; rw [Run.trigger_inv]; rfl

theorem retryNext_inv (pos : Nat) (r : Run) : (retryNext pos r).inv = r.inv := rfl

theorem retryLoop_succ (pos : Nat) (m : Int) (rl : Bool) (h a : List Cond) (inner : Layer) (fuel : Nat) (r : Run) :
    retryLoop pos m rl h a inner (fuel + 1) r =
      match inner r with
      | none => none
      | some (res, r1) =>
        if r1.isCanc then some (r1.cancelRes, r1) else
        if r1.exceeded.contains pos then some (res, r1) else
        if isFailure h res.outcome then
          let x := retryOnFailure pos m rl a res.withFailure r1
          if x.1.done then some (x.1, x.2) else
          let r2 := retryScheduled pos x
          if r2.isCanc then some (r2.cancelRes, r2) else retryLoop pos m rl h a inner fuel (retryNext pos r2)
        else some (res.withDone true true, r1.emitSeen "rp.onSuccess" pos res.outcome) := by
  rw [retryLoop]; rfl

/-- attempt `k` of a hedge policy starts: the first on the execution itself, a hedge on a `CopyForHedge` copy -/
def hedgeStart (pos k : Nat) (r : Run) : Run :=
  if k == 0 then { r with hedgeAttempt := false, hpLast := r.last } else
    ({ r with attempts := r.attempts + 1, hedges := r.hedges + 1, hedgeAttempt := true, last := r.hpLast }).emit "hp.onHedge" pos

def Run.blocksNext (r : Run) : Bool :=
  match r.script with
  | it :: _ => it.blocks
  | [] => false

/-- the function of a blocking hedge attempt is entered -/
def Run.enterBlocked (r : Run) : Run :=
  { r.emitSeen (if r.hedgeAttempt then "fnh" else "fn") 0 r.seenLast with script := r.script.drop 1, inv := r.inv + 1 }

theorem hedgeLoop_succ (pos n : Nat) (co : List Cond) (inner : Layer) (fuel k d b : Nat) (r : Run) :
    hedgeLoop pos n co inner (fuel + 1) k d b r =
      let r0 := hedgeStart pos k r
      if r0.blocksNext then
        if k < n then hedgeLoop pos n co inner fuel (k + 1) d (b + 1) r0.enterBlocked
        else if !r0.inTimeout then none
        else some (timeoutResult, r0.enterBlocked.fire (b + 1))
      else
        match inner r0 with
        | none => none
        | some (res, r1) =>
          if r1.isCanc then some (r1.cancelRes, { r1 with execs := r1.execs + b })
          else if decide (d + 1 = n + 1) || isCancellable co res.outcome then some (res, { r1 with execs := r1.execs + b })
          else if k < n then hedgeLoop pos n co inner fuel (k + 1) (d + 1) b r1
          else if b == 0 then some (res, r1)
          else if !r1.inTimeout then none
          else some (timeoutResult, r1.fire b) := by
  rw [hedgeLoop]
  -- name the state the attempt starts in before the `have`s of the definition are substituted: it occurs dozens of times
  dsimp -zeta -zetaHave only
  unfold hedgeStart
  generalize (if k == 0 then { r with hedgeAttempt := false, hpLast := r.last } else
    ({ r with attempts := r.attempts + 1, hedges := r.hedges + 1, hedgeAttempt := true, last := r.hpLast }).emit "hp.onHedge" pos) = r0
  simp only [Run.blocksNext]
  -- the two script cases of the definition that run the attempt are the same text
  split
  · rename_i it tail heq
    by_cases hb : it.blocks = true <;> simp only [heq, hb, ↓reduceIte, Bool.false_eq_true] <;> rfl
  · rename_i heq
    simp only [heq, Bool.false_eq_true, ↓reduceIte]
    rfl

/-- `r'` has started the same attempts, has the same script left and reads the same clock as `r` -/
def Run.SameWork (r r' : Run) : Prop :=
  r'.attempts = r.attempts ∧ r'.retries = r.retries ∧ r'.hedges = r.hedges ∧ r'.script = r.script ∧ r'.w.now = r.w.now

/-- `I` survives every change a policy executor or the function wrapper makes to the run state on its own: it reads nothing but
the attempt counters, the remaining script and the clock (`frame`), and it survives the four steps that move those.
`frame`'s side condition is five projections of nested record updates, true by `rfl` wherever it is used, so it is an
auto-parameter: `hI.frame h` proves `I r'` for any `r'` that differs from `r` in other fields only. -/
structure Stable (I : Run → Prop) : Prop where
  frame : ∀ {r r' : Run}, I r → (_ : r.SameWork r' := by exact ⟨rfl, rfl, rfl, rfl, rfl⟩) → I r'
  retry : ∀ {r : Run}, I r → I { r with attempts := r.attempts + 1, retries := r.retries + 1 }
  hedge : ∀ {r : Run}, I r → I { r with attempts := r.attempts + 1, hedges := r.hedges + 1 }
  pop : ∀ {r : Run} {it : Item} {rest : List Item}, r.script = it :: rest → I r →
    I { r with script := rest, w := { r.w with now := r.w.now + it.adv } }
  drop : ∀ {r : Run}, I r → I { r with script := r.script.drop 1 }

def Preserves (I : Run → Prop) (l : Layer) : Prop := ∀ r, I r → Answers (fun _ r' => I r') (l r)

namespace Stable
variable {I : Run → Prop} (hI : Stable I)
include hI

theorem emit {r : Run} {n : String} {p : Nat} (h : I r) : I (r.emit n p) := hI.frame h

theorem emitSeen {r : Run} {n : String} {p : Nat} {o : Outcome} (h : I r) : I (r.emitSeen n p o) := hI.frame h

theorem trigger {r : Run} (n : String) (h : I r) : I (r.trigger n) := by
  obtain ⟨k, e, he⟩ := r.trigger_frame n
  rw [he]; exact hI.frame h

theorem drain {r : Run} (id pos : Nat) (h : I r) : I (drainBreaker r id pos) := by
  obtain ⟨l, bs, he⟩ := drainBreaker_frame r id pos
  rw [he]; exact hI.frame h

theorem fire {r : Run} (extra : Nat) (h : I r) : I (r.fire extra) := by
  obtain ⟨l, he⟩ := r.fire_frame extra
  rw [he]; exact hI.frame h

theorem hedgeStart {r : Run} (pos k : Nat) (h : I r) : I (hedgeStart pos k r) := by
  unfold Exec.hedgeStart; split
  · exact hI.frame h
  · exact hI.frame (hI.hedge h)

theorem base : Preserves I base := by
  intro r hs res r' h
  have h0 : I r.enter := by obtain ⟨l, k, e, he⟩ := r.enter_frame; rw [he]; exact hI.frame hs
  rcases base_cases h with ⟨_, _, rfl⟩ | ⟨it, rest, hsc, _, rfl | rfl⟩
  · exact hI.frame h0
  · exact hI.frame (hI.pop hsc h0)
  · exact hI.fire 1 (hI.frame (hI.pop hsc h0))

theorem retryLoop (pos : Nat) (m : Int) (rl : Bool) (h a : List Cond) {inner : Layer} (hi : Preserves I inner) :
    ∀ fuel, Preserves I (retryLoop pos m rl h a inner fuel) := by
  intro fuel
  induction fuel with
  | zero => intro r _; exact .none
  | succ n ih =>
    intro r hs
    rw [retryLoop_succ]
    refine .bind (hi r hs) fun res r1 h1 => ?_
    have h2 : I (retryOnFailure pos m rl a res.withFailure r1).2 := by rw [retryOnFailure_snd]; exact hI.frame h1
    have h3 : I (retryScheduled pos (retryOnFailure pos m rl a res.withFailure r1)) := hI.trigger _ (hI.frame h2)
    exact
      .ite (fun _ => .some h1) fun _ =>                         -- cancelled
      .ite (fun _ => .some h1) fun _ =>                         -- exhausted
      .ite (fun _ =>                                            -- a failure:
        .ite (fun _ => .some h2) fun _ =>                       --   final
        .ite (fun _ => .some h3) fun _ =>                       --   cancelled while waiting
        ih _ (hI.frame (hI.retry h3)))                          --   next round
      fun _ => .some (hI.frame h1)                              -- a success

theorem hedgeLoop (pos n : Nat) (co : List Cond) {inner : Layer} (hi : Preserves I inner) :
    ∀ fuel k d b, Preserves I (hedgeLoop pos n co inner fuel k d b) := by
  intro fuel
  induction fuel with
  | zero => intro k d b r _; exact .none
  | succ f ih =>
    intro k d b r hs
    rw [hedgeLoop_succ]
    have h0 := hI.hedgeStart pos k hs
    have hb : I (Exec.hedgeStart pos k r).enterBlocked := hI.frame (hI.drop h0)
    exact
      .ite (fun _ =>                                            -- the attempt blocks:
        .ite (fun _ => ih _ _ _ _ hb) fun _ =>                  --   hedge further
        .ite (fun _ => .none) fun _ =>                          --   nothing will release it
        .some (hI.fire _ hb))                                   --   the Timeout fires
      fun _ => .bind (hi _ h0) fun _ _ h1 =>                    -- the attempt answers:
        .ite (fun _ => .some (hI.frame h1)) fun _ =>            --   cancelled
        .ite (fun _ => .some (hI.frame h1)) fun _ =>            --   accepted
        .ite (fun _ => ih _ _ _ _ h1) fun _ =>                  --   hedge further
        .ite (fun _ => .some h1) fun _ =>                       --   the last one, none blocked
        .ite (fun _ => .none) fun _ =>                          --   nothing will release the blocked ones
        .some (hI.fire _ h1)                                    --   the Timeout fires

/-- **a stable predicate that what is inside a policy layer preserves is preserved by the layer** -/
theorem applyPolicy (fuel pos : Nat) (p : Policy) {inner : Layer} (hi : Preserves I inner) :
    Preserves I (applyPolicy fuel pos p inner) := by
  intro r hs
  cases p with
  | retry m rl h a => exact hI.retryLoop pos m rl h a hi fuel r hs
  | hedge n co => exact .map fun _ _ hl => hI.frame (hI.hedgeLoop pos n co hi _ _ _ _ r hs _ _ hl)
  | breaker id h =>
    dsimp only [Exec.applyPolicy]
    cases r.w.breakers[id]? with
    | none => exact .none
    | some cb =>
      have hs1 : I (drainBreaker (updBreaker r id (fun _ _ => (Breaker.tryAcquire cb.1 cb.2 r.w.now).1)) id pos) :=
        hI.drain id pos (hI.frame hs)
      exact .ite (fun _ => .some hs1) fun _ => .bind (hi _ hs1) fun _ _ h1 =>
        .ite (fun _ => .some (hI.drain id pos (hI.frame h1))) fun _ => .some (hI.drain id pos (hI.frame h1))
  | bulkhead id =>
    dsimp only [Exec.applyPolicy]
    cases r.w.bulk[id]? with
    | none => exact .none
    | some ch => exact .ite (fun _ => .bind (hi _ (hI.frame hs)) fun _ _ h1 => .some (hI.frame h1)) fun _ => .some (hI.frame hs)
  | limiter id =>
    dsimp only [Exec.applyPolicy]
    cases r.w.limiters[id]? with
    | none => exact .none
    | some cs => exact .ite (fun _ => hi _ (hI.frame hs)) fun _ => .some (hI.frame hs)
  | fallback k h =>
    -- `rfl` through three nested updates of the run is slow to check: one event at a time
    exact .bind (hi _ hs) fun _ _ h1 => .ite
      (fun _ => .ite (fun _ => .some (hI.emitSeen h1)) fun _ => .some (hI.emit (hI.emitSeen (hI.emitSeen h1))))
      fun _ => .some (hI.emitSeen h1)
  | timeout =>
    exact .bind (hi _ (hI.frame hs)) fun _ _ h1 =>
      .ite (fun _ => .some (hI.frame h1)) fun _ => .ite (fun _ => .some (hI.frame h1)) fun _ => .some (hI.frame h1)
  | cache id key cif =>
    dsimp only [Exec.applyPolicy]
    split
    · exact .some (hI.frame hs)
    · exact .bind (hi _ (hI.frame hs)) fun _ _ h1 => .ite (fun _ => .some (hI.frame h1)) fun _ => .some h1

theorem executeStack (fuel : Nat) (ps : List Policy) : ∀ pos, Preserves I (executeStack fuel pos ps) := by
  induction ps with
  | nil => intro pos; exact hI.base
  | cons p ps ih => intro pos; exact hI.applyPolicy fuel pos p (ih (pos + 1))

end Stable

end Failsafe.Exec
