import Failsafe.Lemmas.Layer
/-!
# The clock of the breakers and rate limiters never goes back during an execution

`Exec.Item.adv` lets an invocation of the wrapped function advance the (virtual) clock. The theorems of C03 / C05 are stated for
operation sequences at non-decreasing instants; this file shows that the composition model only ever presents such sequences to
the stateful policies: for every policy list, every script whose advances are non-negative, every layer leaves the clock at or
after where it found it (`executeStack_clock`). Proof: `Clk t0` ("the clock is at least `t0` and the remaining script only
advances") reads only the clock and the script and survives an invocation consuming its item, so it is `Stable`
(`Lemmas/Layer.lean`) and hence preserved by every layer, whatever is inside it.
-/
namespace Failsafe.Lemmas.Clock
open Failsafe.Exec

def NN (r : Run) : Prop := ∀ it ∈ r.script, 0 ≤ it.adv

/-- the clock is at least `t0` and what is left of the script only moves it forward -/
def Clk (t0 : Int) (r : Run) : Prop := t0 ≤ r.w.now ∧ NN r

def Preserves (t0 : Int) (l : Layer) : Prop := ∀ r res r', l r = some (res, r') → Clk t0 r → Clk t0 r'

theorem clk_stable (t0 : Int) : Stable (Clk t0) where
  frame h := fun ⟨_, _, _, hscript, hnow⟩ => by unfold Clk NN at *; rw [hscript, hnow]; exact h
  retry h := h
  hedge h := h
  pop hsc h :=
    ⟨by have := h.1; have := h.2 _ (hsc ▸ List.mem_cons_self); show _ ≤ _ + _; omega,
     fun x hx => h.2 x (hsc ▸ List.mem_cons_of_mem _ hx)⟩
  drop h := ⟨h.1, fun it hit => h.2 it (List.mem_of_mem_drop hit)⟩

theorem clk_fire (t0 : Int) (r1 : Run) (extra : Nat) (ha : Clk t0 r1) :
    Clk t0 ({ (if r1.cancelled = true then r1 else r1.emit "to.onTimeoutExceeded" r1.timeoutPos) with
              cancelled := true, execs := (if r1.cancelled = true then r1 else r1.emit "to.onTimeoutExceeded" r1.timeoutPos).execs + extra }) :=
  (clk_stable t0).fire extra ha

theorem applyPolicy_preserves (t0 : Int) (fuel pos : Nat) (p : Policy) (inner : Layer) (hi : Preserves t0 inner) :
    Preserves t0 (applyPolicy fuel pos p inner) :=
  fun r res r' h hs => (clk_stable t0).applyPolicy fuel pos p (fun r hs res r' h => hi r res r' h hs) r hs res r' h

/-- **the clock never goes back**: for every policy list and every script whose advances are non-negative, an execution leaves the
clock at or after where it found it, and so does every layer of it -/
theorem executeStack_clock (fuel : Nat) (ps : List Policy) (pos : Nat) (r : Run) (res : PR) (r' : Run)
    (h : executeStack fuel pos ps r = some (res, r')) (hnn : NN r) : r.w.now ≤ r'.w.now ∧ NN r' :=
  (clk_stable r.w.now).executeStack fuel ps pos r ⟨Int.le_refl _, hnn⟩ res r' h

end Failsafe.Lemmas.Clock
