import Failsafe.Limiter
/-! Bursty limiter over Euclidean division (`BH`): ordinal refinement and the per-period bound. Before it, what the
`Int.tdiv` model (`Lemmas/BurstyBridge`) shares with it: the arithmetic, and the roll as a function of the period index. -/
namespace Failsafe.Limiter

theorem le_mul_of_one_le {a pp : Int} (ha : 1 ≤ a) (hpp : 0 < pp) : pp ≤ a * pp := by
  have := Int.mul_le_mul_of_nonneg_right ha (Int.le_of_lt hpp)
  rwa [Int.one_mul] at this

/-- the further whole periods a deficit `d` has to wait for, `⌈d / pp⌉ - 1` as the source computes it -/
theorem ceil_pred (d : Int) {pp : Int} (hpp : 0 < pp) :
    (if d % pp = 0 then d / pp - 1 else d / pp) = (d - 1) / pp := by
  have h1 := Int.mul_ediv_add_emod d pp
  have h2 := Int.emod_nonneg d (Int.ne_of_gt hpp)
  have h3 := Int.emod_lt_of_pos d hpp
  symm
  rw [Int.ediv_eq_iff_of_pos hpp]
  split
  · rw [Int.sub_mul, Int.one_mul, Int.mul_comm]; omega
  · rw [Int.mul_comm]; omega

/-- capping at `pp` before or after adding at least `pp` is the same -/
theorem min_min_add {x pp D : Int} (hD : pp ≤ D) (hpp : 0 < pp) : min (min x pp + D) pp = min (x + D) pp := by
  rw [Int.min_def x pp]
  split
  · rfl
  · rw [Int.min_eq_right (by omega), Int.min_eq_right (by omega)]

/-- the roll as a function of the new period index: `roll` and `BH.roll` differ only in the division that computes it -/
def rollTo (pp : Int) (s : BSt) (np : Int) : BSt :=
  if s.cur < np then { cur := np, avail := if s.avail < 0 then min (s.avail + (np - s.cur) * pp) pp else pp } else s

theorem roll_eq_rollTo (c : BCfg) (s : BSt) (t : Int) : roll c s t = rollTo c.pp s (Int.tdiv t c.period) := rfl

theorem rollTo_of_not_lt {pp : Int} {s : BSt} {np : Int} (h : ¬ s.cur < np) : rollTo pp s np = s := if_neg h

/-- a real roll needs no test of the sign: with permits left, `avail + (np - cur) * pp ≥ pp` anyway -/
theorem rollTo_of_lt {pp : Int} {s : BSt} {np : Int} (hpp : 0 < pp) (h : s.cur < np) :
    rollTo pp s np = { cur := np, avail := min (s.avail + (np - s.cur) * pp) pp } := by
  have := le_mul_of_one_le (a := np - s.cur) (by omega) hpp
  unfold rollTo
  rw [if_pos h]
  congr 1
  split <;> omega

theorem rollTo_cur_not_lt (pp : Int) (s : BSt) (np : Int) : ¬ (rollTo pp s np).cur < np := by
  unfold rollTo
  split
  · exact Int.lt_irrefl np
  · assumption

theorem rollTo_cur {pp : Int} {s : BSt} {np : Int} (hc : s.cur ≤ np) : (rollTo pp s np).cur = np := by
  unfold rollTo
  split
  · rfl
  · omega

theorem rollTo_avail_le {pp : Int} {s : BSt} {np : Int} (hpp : 0 < pp) (hi : s.avail ≤ pp) : (rollTo pp s np).avail ≤ pp := by
  by_cases h : s.cur < np
  · rw [rollTo_of_lt hpp h]; exact Int.min_le_right ..
  · rwa [rollTo_of_not_lt h]

/-- rolling to `np` and then on to `np'` is rolling to `np'` (needs the cap at `pp`, i.e. the D1 repair) -/
theorem rollTo_rollTo {pp : Int} (hpp : 0 < pp) (s : BSt) {np np' : Int} (h : np ≤ np') :
    rollTo pp (rollTo pp s np) np' = rollTo pp s np' := by
  by_cases h1 : s.cur < np
  · rw [rollTo_of_lt hpp h1, rollTo_of_lt hpp (Int.lt_of_lt_of_le h1 h)]
    by_cases h2 : np < np'
    · rw [rollTo_of_lt (s := ⟨_, np⟩) hpp h2]
      have hsplit : (np' - s.cur) * pp = (np - s.cur) * pp + (np' - np) * pp := by
        rw [← Int.add_mul]; congr 1; omega
      congr 1
      show min (min (s.avail + (np - s.cur) * pp) pp + (np' - np) * pp) pp = _
      rw [hsplit, ← Int.add_assoc]
      exact min_min_add (le_mul_of_one_le (by omega) hpp) hpp
    · rw [rollTo_of_not_lt (s := ⟨_, np⟩) h2, show np' = np by omega]
  · rw [rollTo_of_not_lt h1]

end Failsafe.Limiter

/-! ## `BH`: the bursty limiter over Euclidean division, one permit at a time

The idea of the file: `ord = cur * pp + pp - avail` is the global ordinal of the next permit to be handed out (permit `G` belongs to
period `G / pp`); a roll can only skip ordinals forward (`roll_ord`), a request takes exactly the next one (`take1_fst`), so the
ordinals of a history increase strictly, and a period `q` owns the `pp` ordinals `q * pp … q * pp + pp - 1`. -/
namespace Failsafe.Limiter.BH

abbrev Cfg := BCfg
abbrev St := BSt

def roll (c : Cfg) (s : St) (t : Int) : St :=
  let np := t / c.period
  if s.cur < np then
    { cur := np, avail := if s.avail < 0 then min (s.avail + (np - s.cur) * c.pp) c.pp else c.pp }
  else s

def take1 (c : Cfg) (s : St) : Int × St :=
  if 1 > s.avail then
    let d := 1 - s.avail
    let ap := if d % c.pp = 0 then d / c.pp - 1 else d / c.pp
    (s.cur + 1 + ap, { s with avail := s.avail - 1 })
  else (s.cur, { s with avail := s.avail - 1 })

def ord (c : Cfg) (s : St) : Int := s.cur * c.pp + c.pp - s.avail

def Inv (c : Cfg) (s : St) : Prop := s.avail ≤ c.pp

/-- run a history of single-permit requests at the given instants; returns the usable period and ordinal of each permit -/
def run (c : Cfg) : St → List Int → List (Int × Int)
  | _, [] => []
  | s, t :: ts =>
    let s1 := roll c s t
    let (p, s2) := take1 c s1
    (p, ord c s1) :: run c s2 ts

theorem roll_eq_rollTo (c : Cfg) (s : St) (t : Int) : roll c s t = rollTo c.pp s (t / c.period) := rfl

/-- in ordinals the roll is a maximum: permits not yet due stay owed, unused ones of past periods are dropped -/
theorem roll_ord (c : Cfg) (s : St) (t : Int) (hpp : 0 < c.pp) (hi : Inv c s) :
    ord c (roll c s t) = max (ord c s) (t / c.period * c.pp) := by
  rw [roll_eq_rollTo]
  generalize t / c.period = np
  unfold Inv at hi
  by_cases h : s.cur < np
  · rw [rollTo_of_lt hpp h]
    unfold ord
    simp only [Int.sub_mul]
    omega
  · rw [rollTo_of_not_lt h]
    have := Int.mul_le_mul_of_nonneg_right (Int.not_lt.1 h) (Int.le_of_lt hpp)
    exact (Int.max_eq_left (by unfold ord; omega)).symm

theorem roll_spec (c : Cfg) (s : St) (t : Int) (hpp : 0 < c.pp) (hi : Inv c s) (hc : s.cur ≤ t / c.period) :
    Inv c (roll c s t) ∧ (roll c s t).cur = t / c.period ∧ ord c s ≤ ord c (roll c s t) :=
  ⟨rollTo_avail_le hpp hi, rollTo_cur hc, by rw [roll_ord c s t hpp hi]; exact Int.le_max_left ..⟩

theorem take1_snd (c : Cfg) (s : St) : (take1 c s).2 = { s with avail := s.avail - 1 } := by
  unfold take1
  split <;> rfl

theorem take1_of_lt (c : Cfg) (s : St) (hpp : 0 < c.pp) (h : 1 > s.avail) :
    (take1 c s).1 = s.cur + 1 + (1 - s.avail - 1) / c.pp := by
  unfold take1
  rw [if_pos h]
  exact congrArg (s.cur + 1 + ·) (ceil_pred _ hpp)

theorem take1_of_ge (c : Cfg) (s : St) (h : ¬ 1 > s.avail) : (take1 c s).1 = s.cur := by
  unfold take1
  rw [if_neg h]

/-- the period in which a permit becomes usable is its ordinal divided by `pp` -/
theorem take1_fst (c : Cfg) (s : St) (hpp : 0 < c.pp) (hle : Inv c s) : (take1 c s).1 = ord c s / c.pp := by
  unfold Inv at hle
  unfold ord
  by_cases h : 1 > s.avail
  · rw [take1_of_lt c s hpp h,
      show s.cur * c.pp + c.pp - s.avail = (1 - s.avail - 1) + (s.cur + 1) * c.pp by rw [Int.add_mul, Int.one_mul]; omega,
      Int.add_mul_ediv_right _ _ (Int.ne_of_gt hpp)]
    omega
  · rw [take1_of_ge c s h]
    symm
    rw [Int.ediv_eq_iff_of_pos hpp]
    omega

theorem take1_spec (c : Cfg) (s : St) (hpp : 0 < c.pp) (hle : Inv c s) :
    (take1 c s).1 * c.pp ≤ ord c s ∧ ord c s < ((take1 c s).1 + 1) * c.pp
    ∧ ord c (take1 c s).2 = ord c s + 1 ∧ Inv c (take1 c s).2 ∧ (take1 c s).2.cur = s.cur := by
  rw [take1_fst c s hpp hle, take1_snd]
  refine ⟨Int.ediv_mul_le _ (Int.ne_of_gt hpp), Int.lt_ediv_add_one_mul_self _ hpp, ?_, ?_, rfl⟩
  · unfold ord; simp only; omega
  · unfold Inv at *; simp only; omega

theorem step_ok (c : Cfg) (hpp : 0 < c.pp) (hper : 0 < c.period) (s : St) (t : Int) (ts : List Int)
    (hi : Inv c s) (hcur : ∀ t' ∈ t :: ts, s.cur ≤ t' / c.period) (hs : (t :: ts).Pairwise (· ≤ ·)) :
    Inv c (take1 c (roll c s t)).2 ∧ (∀ t' ∈ ts, (take1 c (roll c s t)).2.cur ≤ t' / c.period) ∧ ts.Pairwise (· ≤ ·) := by
  obtain ⟨hi1, hcur1, _⟩ := roll_spec c s t hpp hi (hcur t (List.mem_cons_self ..))
  rw [List.pairwise_cons] at hs
  rw [take1_snd]
  exact ⟨Int.le_trans (Int.sub_le_self _ (by decide)) hi1,
    fun t' ht' => hcur1 ▸ Int.ediv_le_ediv hper (hs.1 t' ht'), hs.2⟩

/-- all ordinals in the output are ≥ the starting ordinal, strictly increasing, and each permit's period brackets its ordinal -/
theorem run_spec (c : Cfg) (hpp : 0 < c.pp) (hper : 0 < c.period) :
    ∀ (ts : List Int) (s : St), Inv c s → (∀ t ∈ ts, s.cur ≤ t / c.period) → ts.Pairwise (· ≤ ·) →
      (∀ pg ∈ run c s ts, ord c s ≤ pg.2 ∧ pg.1 * c.pp ≤ pg.2 ∧ pg.2 < (pg.1 + 1) * c.pp) ∧
      (run c s ts).Pairwise (fun a b => a.2 < b.2) := by
  intro ts
  induction ts with
  | nil => intro s _ _ _; exact ⟨fun _ h => (nomatch h), List.Pairwise.nil⟩
  | cons t ts ih =>
    intro s hi hcur hsorted
    obtain ⟨hi1, _, hord1⟩ := roll_spec c s t hpp hi (hcur t (List.mem_cons_self ..))
    obtain ⟨hlo, hhi, hord2, _, _⟩ := take1_spec c (roll c s t) hpp hi1
    obtain ⟨hi2, hcur2, hs2⟩ := step_ok c hpp hper s t ts hi hcur hsorted
    obtain ⟨hall, hpw⟩ := ih _ hi2 hcur2 hs2
    have hlater : ∀ pg ∈ run c (take1 c (roll c s t)).2 ts, ord c (roll c s t) < pg.2 := fun pg hpg => by
      have := (hall pg hpg).1
      omega
    exact ⟨List.forall_mem_cons.2 ⟨⟨hord1, hlo, hhi⟩, fun pg hpg =>
        ⟨Int.le_of_lt (Int.lt_of_le_of_lt hord1 (hlater pg hpg)), (hall pg hpg).2⟩⟩,
      List.pairwise_cons.2 ⟨hlater, hpw⟩⟩

/-- counting: a strictly increasing list of integers inside [lo, lo+n) has at most n elements -/
theorem length_le_of_strict (gs : List Int) : ∀ (lo : Int) (n : Nat),
    gs.Pairwise (· < ·) → (∀ g ∈ gs, lo ≤ g ∧ g < lo + n) → gs.length ≤ n := by
  induction gs with
  | nil => intro _ _ _ _; exact Nat.zero_le _
  | cons g gs ih =>
    intro lo n hpw hin
    rw [List.pairwise_cons] at hpw
    have hg := hin g (List.mem_cons_self ..)
    -- the rest lies in [g+1, lo+n)
    have := ih (g + 1) (lo + n - (g + 1)).toNat hpw.2 (fun x hx => by
      have h1 := hpw.1 x hx
      have h2 := hin x (List.mem_cons_of_mem _ hx)
      omega)
    rw [List.length_cons]
    omega

/-- for any history of single-permit requests at non-decreasing instants, at most pp permits are usable in any period q -/
theorem bursty_le_pp_per_period (c : Cfg) (hpp : 0 < c.pp) (hper : 0 < c.period)
    (s : St) (hi : Inv c s) (ts : List Int) (hcur : ∀ t ∈ ts, s.cur ≤ t / c.period)
    (hsorted : ts.Pairwise (· ≤ ·)) (q : Int) :
    ((run c s ts).filter (fun pg => pg.1 = q)).length ≤ c.pp.toNat := by
  obtain ⟨hall, hpw⟩ := run_spec c hpp hper ts s hi hcur hsorted
  -- the ordinals of the permits of period `q` increase strictly inside `[q * pp, q * pp + pp)`
  rw [← List.length_map (f := (·.2))]
  refine length_le_of_strict _ (q * c.pp) c.pp.toNat (List.pairwise_map.2 (hpw.sublist List.filter_sublist))
    fun g hg => ?_
  obtain ⟨pg, hpg, rfl⟩ := List.mem_map.1 hg
  obtain ⟨hmem, hq⟩ := List.mem_filter.1 hpg
  obtain rfl : pg.1 = q := of_decide_eq_true hq
  have h := (hall pg hmem).2
  rw [Int.add_mul] at h
  omega

/-- non-vacuity -/
example : Inv ⟨2, 100⟩ ⟨2, 0⟩ ∧ (0:Int) < 2 ∧ (0:Int) < 100 := by simp [Inv]

end Failsafe.Limiter.BH
