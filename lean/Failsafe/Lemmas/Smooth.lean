import Failsafe.Limiter
/-! Smooth limiter over Euclidean `%`: refinement to a slot counter, k at once = k singles, refusal is a no-op. -/
namespace Failsafe.Limiter

theorem exceeds_iff (w mw : Int) : exceeds w mw = true ↔ mw ≠ -1 ∧ w > mw := by
  simp [exceeds]

namespace Sm

abbrev St := SSt

/-- acquirePermits as in the source, with Euclidean division (time ≥ 0, interval > 0 make tdiv = ediv) -/
def acquire (I : Int) (s : St) (t k mw : Int) : Int × St :=
  let nn := if t ≥ s.next then (t - t % I) + I * k else s.next + I * k
  let w := max (nn - t - I) 0
  if mw ≠ -1 ∧ w > mw then (-1, s) else (w, { next := nn })

/-- abstract spec: a slot counter -/
def slotOf (I t : Int) : Int := t / I
def firstSlot (I : Int) (nextSlot t : Int) : Int := max (slotOf I t) nextSlot

/-- invariant: next is a multiple of I -/
def Inv (I : Int) (s : St) : Prop := ∃ n : Int, s.next = I * n

/-- the `Int.tmod` model agrees with the Euclidean form at non-negative instants -/
theorem smoothAcquire_eq (c : SCfg) (s : SSt) (t k mw : Int) (h0 : 0 ≤ t) :
    smoothAcquire c s t k mw = acquire c.interval s t k mw := by
  simp only [smoothAcquire, acquire, exceeds_iff, Int.tmod_eq_emod_of_nonneg h0]

/-- with a max wait: refused iff the unlimited-wait answer's wait exceeds it, else the unlimited-wait answer -/
theorem acquire_maxwait (I : Int) (s : St) (t k mw : Int) :
    acquire I s t k mw =
      if mw ≠ -1 ∧ (acquire I s t k (-1)).1 > mw then (-1, s) else acquire I s t k (-1) := rfl

theorem acquire_wait_nonneg (I : Int) (s : St) (t k : Int) : 0 ≤ (acquire I s t k (-1)).1 :=
  Int.le_max_right _ 0

/-- a refusal (-1) leaves the state untouched, literally -/
theorem refusal_is_noop (I : Int) (s : St) (t k mw : Int) (h : (acquire I s t k mw).1 = -1) :
    (acquire I s t k mw).2 = s := by
  rw [acquire_maxwait] at h ⊢
  split <;> rename_i hc
  · rfl
  · rw [if_neg hc] at h
    have := acquire_wait_nonneg I s t k
    omega

/-- the new `next`, on a state that is at slot `n`: the end of the `k`-th slot from `firstSlot` -/
theorem next_eq (I : Int) (hI : 0 < I) (n t k : Int) :
    (if t ≥ I * n then t - t % I + I * k else I * n + I * k) = I * (firstSlot I n t + k) := by
  have hle : n ≤ t / I ↔ I * n ≤ t := by rw [Int.le_ediv_iff_mul_le hI, Int.mul_comm]
  rw [Int.mul_add, firstSlot, slotOf]
  split
  · rw [Int.max_eq_left (hle.2 ‹_›), Int.emod_def, Int.sub_sub_self]
  · rw [Int.max_eq_right (by omega)]

theorem acquire_closed (I : Int) (hI : 0 < I) (s : St) (n : Int) (hn : s.next = I * n) (t k : Int) :
    acquire I s t k (-1) = (max (I * (firstSlot I n t + k - 1) - t) 0, ⟨I * (firstSlot I n t + k)⟩) := by
  have e : I * (firstSlot I n t + k - 1) - t = I * (firstSlot I n t + k) - t - I := by
    rw [Int.mul_sub, Int.mul_one]; omega
  rw [e, ← next_eq I hI, ← hn]
  rfl

/-- refinement of one unlimited-wait request to the slot counter -/
theorem acquire_slots (I : Int) (hI : 0 < I) (s : St) (n : Int) (hn : s.next = I * n) (t k : Int) (hk : 1 ≤ k) :
    (acquire I s t k (-1)).2.next = I * (firstSlot I n t + k) ∧
    (acquire I s t k (-1)).1 = max (I * (firstSlot I n t + k - 1) - t) 0 := by
  rw [acquire_closed I hI s n hn]
  exact ⟨rfl, rfl⟩

/-- distinct permits get distinct slots: the slots of consecutive requests never overlap -/
theorem next_slot_advances (I : Int) (hI : 0 < I) (s : St) (n : Int) (hn : s.next = I * n) (t k : Int) (hk : 1 ≤ k) :
    ∃ n', (acquire I s t k (-1)).2.next = I * n' ∧ n' = firstSlot I n t + k ∧ n ≤ firstSlot I n t :=
  ⟨_, (acquire_slots I hI s n hn t k hk).1, rfl, Int.le_max_right _ _⟩

/-- `j` permits and then `i` more at the same instant are `j + i` at once -/
theorem acquire_add (I : Int) (hI : 0 < I) (s : St) (n : Int) (hn : s.next = I * n) (t j i : Int) (hj : 0 ≤ j) :
    acquire I (acquire I s t j (-1)).2 t i (-1) = acquire I s t (j + i) (-1) := by
  have hf : firstSlot I (firstSlot I n t + j) t = firstSlot I n t + j :=
    Int.max_eq_right (by unfold firstSlot; omega)
  rw [acquire_closed I hI s n hn, acquire_closed I hI _ _ rfl, acquire_closed I hI s n hn, hf, Int.add_assoc]

def singles (I : Int) (t : Int) : Nat → Int × St → Int × St
  | 0, ws => ws
  | k + 1, ws => acquire I (singles I t k ws).2 t 1 (-1)

/-- k permits at once = k single permits at the same instant: same state, and the wait of the last single -/
theorem acquire_k_eq_singles (I : Int) (hI : 0 < I) (s : St) (n : Int) (hn : s.next = I * n) (t : Int) :
    ∀ k : Nat, 1 ≤ k → acquire I s t k (-1) = singles I t k (0, s)
  | 1, _ => rfl
  | k + 2, _ => by
    rw [singles, ← acquire_k_eq_singles I hI s n hn t (k + 1) (Nat.succ_pos k),
      acquire_add I hI s n hn t _ 1 (Int.natCast_nonneg _)]
    rfl

end Sm
end Failsafe.Limiter
