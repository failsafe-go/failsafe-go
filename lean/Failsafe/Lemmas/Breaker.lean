import Failsafe.Breaker
/-! The equations of the breaker model's operations (`transition`, `check`, `tryAcquire`), case by case on the state, and
what the configuration's well-formedness says about the capacities. `record c b now v via` is
`check c { b with stats := b.stats.record now v } now via` by `rfl`. -/
namespace Failsafe.Breaker

variable {c : Cfg} {b : B} {now : Int} {new : Tag} {via : Bool}

theorem transition_self (h : b.tag = new) : transition c b now new via = b := if_pos h

theorem transition_tag : (transition c b now new via).tag = new := by
  rw [transition]
  by_cases h : b.tag = new
  · rw [if_pos h, h]
  · rw [if_neg h]; cases new <;> rfl

theorem transition_events (h : b.tag ≠ new) :
    (transition c b now new via).events = b.events ++ [⟨b.tag, new, snapshot b.stats⟩] := by
  rw [transition, if_neg h]
  cases new <;> rfl

theorem transition_opened (h : b.tag ≠ .opened) :
    transition c b now .opened via =
      { b with tag := .opened, start := now, delay := if via && c.delayFn != -1 then c.delayFn else c.delay,
               events := b.events ++ [⟨b.tag, .opened, snapshot b.stats⟩] } := if_neg h

theorem transition_halfOpen (h : b.tag ≠ .halfOpen) :
    transition c b now .halfOpen via =
      { b with tag := .halfOpen, stats := .ring (Ring.new (halfOpenCap c)), permits := halfOpenCap c,
               events := b.events ++ [⟨b.tag, .halfOpen, snapshot b.stats⟩] } := if_neg h

theorem check_closed (h : b.tag = .closed) :
    check c b now via = if closedShouldOpen c b.stats then transition c b now .opened via else b := by
  simp only [check, h]

theorem check_opened (h : b.tag = .opened) : check c b now via = b := by
  simp only [check, h]

/-- a transition leaves the half-open state, so the `permittedExecutions++` shows only when nothing was decided -/
theorem check_halfOpen (h : b.tag = .halfOpen) :
    check c b now via =
      if (halfOpenDecision c b.stats).1 then transition c b now .closed
      else if (halfOpenDecision c b.stats).2 then transition c b now .opened via
      else { b with permits := b.permits + 1 } := by
  have hc : (transition c b now .closed).tag ≠ .halfOpen := by rw [transition_tag]; decide
  have ho : (transition c b now .opened via).tag ≠ .halfOpen := by rw [transition_tag]; decide
  rw [check, h]
  dsimp only
  by_cases h1 : (halfOpenDecision c b.stats).1 = true
  · rw [if_pos h1, if_pos h1, if_neg hc]
  · rw [if_neg h1, if_neg h1]
    by_cases h2 : (halfOpenDecision c b.stats).2 = true
    · rw [if_pos h2, if_neg ho, if_pos h2]
    · rw [if_neg h2, if_neg h2, if_pos h, h]

/-- a check that leaves the breaker half-open found it half-open and undecided -/
theorem check_stays_halfOpen (hb : b.tag = .halfOpen) (h : (check c b now via).tag = .halfOpen) :
    halfOpenDecision c b.stats = (false, false) ∧ check c b now via = { b with permits := b.permits + 1 } := by
  rw [check_halfOpen hb] at h ⊢
  by_cases h1 : (halfOpenDecision c b.stats).1 = true
  · rw [if_pos h1, transition_tag] at h; cases h
  · rw [if_neg h1] at h ⊢
    by_cases h2 : (halfOpenDecision c b.stats).2 = true
    · rw [if_pos h2, transition_tag] at h; cases h
    · rw [if_neg h2]
      exact ⟨Prod.ext (Bool.eq_false_iff.2 h1) (Bool.eq_false_iff.2 h2), rfl⟩

/-- only `tryAcquire` half-opens -/
theorem check_tag_ne_halfOpen (hb : b.tag ≠ .halfOpen) : (check c b now via).tag ≠ .halfOpen := by
  cases ht : b.tag
  · rw [check_closed ht]
    split
    · rw [transition_tag]; decide
    · exact hb
  · rwa [check_opened ht]
  · exact absurd ht hb

theorem tryAcquire_closed (h : b.tag = .closed) : tryAcquire c b now = (b, true) := by
  rw [tryAcquire, h]

theorem tryAcquire_halfOpen (h : b.tag = .halfOpen) :
    tryAcquire c b now = if b.permits > 0 then ({ b with permits := b.permits - 1 }, true) else (b, false) := by
  simp only [tryAcquire, h]

/-- an open breaker whose delay has elapsed half-opens and answers as the half-open state -/
theorem tryAcquire_opened (h : b.tag = .opened) :
    tryAcquire c b now =
      if now - b.start ≥ b.delay then tryAcquire c (transition c b now .halfOpen) now else (b, false) := by
  rw [tryAcquire_halfOpen transition_tag]
  simp only [tryAcquire, h]

theorem Cfg.WF.ft_pos (wf : c.WF) : 1 ≤ c.ft := wf.1
theorem Cfg.WF.ft_le_ftc (wf : c.WF) : c.ft ≤ c.ftc := wf.2.1
theorem Cfg.WF.frt_le (wf : c.WF) : c.frt ≤ 100 := wf.2.2.1
theorem Cfg.WF.st_cases (wf : c.WF) : c.st = 0 ∧ c.stc = 0 ∨ 1 ≤ c.st ∧ c.st ≤ c.stc := wf.2.2.2.1
theorem Cfg.WF.ftc_le_fet (wf : c.WF) : c.frt = 0 → c.fet ≠ 0 → c.ftc ≤ c.fet := wf.2.2.2.2.2.2.2.2

theorem fet_le_closedCap : c.fet ≤ closedCap c := by
  unfold closedCap
  split
  · exact Nat.le_refl _
  · omega

theorem ftc_le_closedCap (wf : c.WF) (h : c.frt = 0) : c.ftc ≤ closedCap c := by
  unfold closedCap
  split
  · exact wf.ftc_le_fet h ‹_›
  · exact Nat.le_refl _

theorem halfOpenCap_pos (wf : c.WF) : 0 < halfOpenCap c := by
  unfold halfOpenCap
  split
  · exact Nat.pos_of_ne_zero ‹_›
  · split
    · exact Nat.pos_of_ne_zero ‹_›
    · exact Nat.le_trans wf.ft_pos wf.ft_le_ftc

/-- the trial ring has the success capacity when a success threshold is configured, else the capacity of the closed ring -/
theorem halfOpenCap_eq (wf : c.WF) :
    (c.st ≠ 0 → c.st ≤ c.stc ∧ halfOpenCap c = c.stc) ∧ (c.st = 0 → halfOpenCap c = closedCap c) := by
  rcases wf.st_cases with ⟨h0, h1⟩ | ⟨h0, h1⟩
  · exact ⟨fun h => absurd h0 h, fun _ => if_neg (fun h => h h1)⟩
  · exact ⟨fun _ => ⟨h1, if_pos (by omega)⟩, fun h => by omega⟩

/-- a threshold `a` out of `n` on one count and the complement `n - a` on the other: one of them is met once the counts
sum to `n` (the three regimes of `halfOpenDecision` all have this shape) -/
theorem le_or_sub_lt {x y a n : Nat} (ha : a ≤ n) (hn : n ≤ x + y) : a ≤ x ∨ n - a < y := by omega

end Failsafe.Breaker
