import Failsafe.Lemmas.Bursty
/-! The `Int.tdiv` model of bursty `acquirePermits`: what needs no sign hypothesis (the request is served from the rolled
state, one more permit at the same instant, `k` at once = `k` singles), and the bridge to the Euclidean lemmas at
non-negative instants (`roll_roll`, `waitFor_eq`). -/
namespace Failsafe.Limiter

theorem exceeds_neg_one (w : Int) : exceeds w (-1) = false := rfl

/-- roll, then serve from the rolled state (unlimited wait) -/
theorem acquire_unlimited (c : BCfg) (s : BSt) (t k : Int) :
    burstyAcquire c s t k (-1) =
      (if k > (roll c s t).avail then waitFor c (roll c s t) t k else 0,
       { roll c s t with avail := (roll c s t).avail - k }) := by
  unfold burstyAcquire
  simp only [exceeds_neg_one]
  split <;> rfl

theorem roll_idem (c : BCfg) (s : BSt) (t : Int) : roll c (roll c s t) t = roll c s t :=
  rollTo_of_not_lt (rollTo_cur_not_lt _ _ _)

theorem acquire_eq_rolled (c : BCfg) (s : BSt) (t k mw : Int) :
    burstyAcquire c s t k mw = burstyAcquire c (roll c s t) t k mw := by
  unfold burstyAcquire
  rw [roll_idem]

theorem waitFor_shift (c : BCfg) (s : BSt) (t : Int) (j : Int) :
    waitFor c { s with avail := s.avail - j } t 1 = waitFor c s t (j + 1) := by
  unfold waitFor
  rw [show 1 - (s.avail - j) = j + 1 - s.avail by omega]

/-- one more permit at the same instant: the state a `j`-permit request leaves is rolled, so the single request is served
from it, `j` permits further on -/
theorem acquire_acquire_one (c : BCfg) (s : BSt) (t j : Int) :
    burstyAcquire c (burstyAcquire c s t j (-1)).2 t 1 (-1) = burstyAcquire c s t (j + 1) (-1) := by
  have hr : roll c (burstyAcquire c s t j (-1)).2 t = { roll c s t with avail := (roll c s t).avail - j } := by
    rw [acquire_unlimited]; exact rollTo_of_not_lt (rollTo_cur_not_lt _ _ _)
  rw [acquire_unlimited, hr, acquire_unlimited, waitFor_shift]
  simp only
  congr 1
  · exact ite_congr (propext (by omega)) (fun _ => rfl) (fun _ => rfl)
  · congr 1; omega

/-- `k` single unlimited-wait requests at the same instant -/
def singles (c : BCfg) (t : Int) : Nat → Int × BSt → Int × BSt
  | 0, ws => ws
  | k + 1, ws => burstyAcquire c (singles c t k ws).2 t 1 (-1)

theorem roll_eq_BH (c : BCfg) (s : BSt) (t : Int) (h0 : 0 ≤ t) : roll c s t = BH.roll c s t := by
  rw [roll_eq_rollTo, BH.roll_eq_rollTo, Int.tdiv_eq_ediv_of_nonneg h0]

theorem roll_roll (c : BCfg) (hpp : 0 < c.pp) (hper : 0 < c.period) (s : BSt) (t t' : Int)
    (h0 : 0 ≤ t) (htt : t ≤ t') : roll c (roll c s t) t' = roll c s t' := by
  simp only [roll_eq_rollTo, Int.tdiv_eq_ediv_of_nonneg h0, Int.tdiv_eq_ediv_of_nonneg (Int.le_trans h0 htt)]
  exact rollTo_rollTo hpp s (Int.ediv_le_ediv hper htt)

/-- a request beyond the permits at hand waits for the start of the period of its last permit -/
theorem waitFor_eq (c : BCfg) (s : BSt) (t req : Int) (hpp : 0 < c.pp) (h : req > s.avail) :
    waitFor c s t req = (s.cur + 1 + (req - s.avail - 1) / c.pp) * c.period - t := by
  unfold waitFor
  simp only
  rw [Int.tmod_eq_emod_of_nonneg (by omega), Int.tdiv_eq_ediv_of_nonneg (by omega), ceil_pred _ hpp,
    Int.add_mul (s.cur + 1)]
  omega

/-- a refusal is unobservable: every later request answers as if the refused one had never been made -/
theorem bursty_refusal_unobservable (c : BCfg) (hpp : 0 < c.pp) (hper : 0 < c.period) (s : BSt) (t : Int) (h0 : 0 ≤ t)
    (t' k' mw' : Int) (htt : t ≤ t') :
    burstyAcquire c (roll c s t) t' k' mw' = burstyAcquire c s t' k' mw' := by
  rw [acquire_eq_rolled c (roll c s t) t', acquire_eq_rolled c s t', roll_roll c hpp hper s t t' h0 htt]

end Failsafe.Limiter
