import Failsafe.Breaker
import Failsafe.Lemmas.ListAux
/-! `timedStats` (10 slices, running summary, `head = now / bucketNanos`) refines "results whose slice index lies in
`(head-10, head]`"; the summary equals the sum of the buckets, so the `uint` subtractions never truncate. -/
namespace Failsafe.Breaker

/-- history: (slice, result), in recording order -/
abbrev Hist := List (Nat × Bool)

def cnt (h : Hist) (j : Nat) : Nat × Nat :=
  ((h.filter (fun e => e.1 == j && e.2)).length, (h.filter (fun e => e.1 == j && !e.2)).length)

/-- slots of the window: j ranges over the last N slices ending at head (those that exist) -/
def inWindow (head j : Nat) : Prop := j ≤ head ∧ head < j + N

structure TRep (t : Timed) (h : Hist) : Prop where
  len : t.buckets.length = N
  le_head : ∀ e ∈ h, e.1 ≤ t.head
  slot : ∀ j, inWindow t.head j → t.buckets.getD (j % N) (0, 0) = cnt h j
  empty : ∀ i, i < N → (∀ j, inWindow t.head j → j % N ≠ i) → t.buckets.getD i (0, 0) = (0, 0)
  sumS : t.sumS = (t.buckets.map (·.1)).sum
  sumF : t.sumF = (t.buckets.map (·.2)).sum

theorem trep_new (p : Int) : TRep (Timed.new p) [] :=
  ⟨List.length_replicate, fun _ he => (nomatch he), fun _ _ => getD_replicate_self .., fun _ _ _ => getD_replicate_self ..,
    rfl, rfl⟩

theorem cnt_future (h : Hist) (j head : Nat) (hle : ∀ e ∈ h, e.1 ≤ head) (hj : head < j) : cnt h j = (0, 0) := by
  have : ∀ e ∈ h, (e.1 == j) = false := fun e he => beq_false_of_ne (Nat.ne_of_lt (Nat.lt_of_le_of_lt (hle e he) hj))
  simp only [cnt, Prod.mk.injEq, List.length_eq_zero_iff, List.filter_eq_nil_iff]
  constructor <;> (intro e he; simp [this e he])

theorem cnt_append (h : Hist) (s : Nat) (v : Bool) (j : Nat) :
    cnt (h ++ [(s, v)]) j = if j = s then ((cnt h j).1 + v.toNat, (cnt h j).2 + (!v).toNat) else cnt h j := by
  unfold cnt
  by_cases hj : j = s
  · subst hj; cases v <;> simp [List.filter_append]
  · have : (s == j) = false := beq_false_of_ne (Ne.symm hj)
    simp [List.filter_append, this, hj]

theorem clear_sums (n i : Nat) (t : Timed) (hl : t.buckets.length = N)
    (hs : t.sumS = (t.buckets.map (·.1)).sum) (hf : t.sumF = (t.buckets.map (·.2)).sum) :
    (clear n i t).buckets.length = N ∧ (clear n i t).head = t.head ∧
    (clear n i t).sumS = ((clear n i t).buckets.map (·.1)).sum ∧
    (clear n i t).sumF = ((clear n i t).buckets.map (·.2)).sum := by
  induction n generalizing i t with
  | zero => exact ⟨hl, rfl, hs, hf⟩
  | succ n ih =>
    have hidx : (t.head + i + 1) % N < t.buckets.length := by rw [hl]; exact Nat.mod_lt _ (by decide)
    have h1 := sum_map_set (·.1) t.buckets _ (0, 0) (0, 0) hidx
    have h2 := sum_map_set (·.2) t.buckets _ (0, 0) (0, 0) hidx
    exact ih (i + 1) _ (by rw [List.length_set]; exact hl)
      (by show t.sumS - _ = _; rw [hs]; exact (Nat.eq_sub_of_add_eq h1).symm)
      (by show t.sumF - _ = _; rw [hf]; exact (Nat.eq_sub_of_add_eq h2).symm)

/-- what `clear` does to each slot: zero if it is one of (head+i+1 .. head+i+n) mod N, untouched otherwise -/
theorem clear_getD (n : Nat) : ∀ (i : Nat) (t : Timed) (k : Nat), t.buckets.length = N → k < N →
    (clear n i t).buckets.getD k (0, 0) =
      if ∃ m, m < n ∧ (t.head + i + m + 1) % N = k then (0, 0) else t.buckets.getD k (0, 0) := by
  induction n with
  | zero => intro i t k _ _; exact (if_neg fun ⟨m, hm, _⟩ => Nat.not_lt_zero m hm).symm
  | succ n ih =>
    intro i t k hl hk
    -- the recursive call clears the slots of `m + 1`, this step the slot of `m = 0`
    have e : ∀ m, t.head + (i + 1) + m + 1 = t.head + i + (m + 1) + 1 := fun m => by omega
    rw [clear, ih (i + 1) _ k (by rw [List.length_set]; exact hl) hk]
    simp only [e, Nat.exists_lt_succ_left, getD_set, Nat.add_zero]
    by_cases hA : ∃ m, m < n ∧ (t.head + i + (m + 1) + 1) % N = k
    · rw [if_pos hA, if_pos (Or.inr hA)]
    · rw [if_neg hA]
      by_cases hB : (t.head + i + 1) % N = k
      · rw [if_pos ⟨hB, hl ▸ hk⟩, if_pos (Or.inl hB)]
      · rw [if_neg (fun h => hB h.1), if_neg (fun h => h.elim hB hA)]

theorem roll_le (t : Timed) (nh : Nat) (h : nh ≤ t.head) : roll t nh = t := if_neg (Nat.not_lt.2 h)

theorem roll_lt (t : Timed) (nh : Nat) (h : t.head < nh) :
    roll t nh = { clear (min N (nh - t.head)) 0 t with head := nh } := if_pos h

/-- a roll forward zeroes the slots of the slices it passes over and leaves the others as they were -/
theorem roll_getD (t : Timed) (nh k : Nat) (hl : t.buckets.length = N) (hk : k < N) (hgt : t.head < nh) :
    (roll t nh).buckets.getD k (0, 0) = (0, 0) ∧ (∃ s, t.head < s ∧ s ≤ nh ∧ s % N = k) ∨
    (roll t nh).buckets.getD k (0, 0) = t.buckets.getD k (0, 0) ∧ ¬ ∃ s, t.head < s ∧ s ≤ nh ∧ s % N = k := by
  have hc := residues_min (n := N) (by decide) t.head (nh - t.head) k
  rw [Nat.add_sub_cancel' (Nat.le_of_lt hgt)] at hc
  rw [roll_lt t nh hgt]
  rw [clear_getD _ 0 t k hl hk]
  simp only [Nat.add_zero]
  by_cases hE : ∃ s, t.head < s ∧ s ≤ nh ∧ s % N = k
  · rw [if_pos (hc.2 hE)]; exact .inl ⟨rfl, hE⟩
  · rw [if_neg (mt hc.1 hE)]; exact .inr ⟨rfl, hE⟩

theorem rep_roll (t : Timed) (h : Hist) (hr : TRep t h) (nh : Nat) :
    TRep (roll t nh) h ∧ (roll t nh).head = max t.head nh := by
  by_cases hgt : t.head < nh
  · have hc := clear_sums (min N (nh - t.head)) 0 t hr.len hr.sumS hr.sumF
    have hg := fun k hk => roll_getD t nh k hr.len hk hgt
    rw [roll_lt t nh hgt] at hg ⊢
    refine ⟨⟨hc.1, fun e he => Nat.le_trans (hr.le_head e he) (Nat.le_of_lt hgt), ?_, ?_, hc.2.2.1, hc.2.2.2⟩,
      (Nat.max_eq_right (Nat.le_of_lt hgt)).symm⟩
    · intro j (hw : inWindow nh j)
      rcases hg (j % N) (Nat.mod_lt _ (by decide)) with ⟨e, s, h1, h2, hs⟩ | ⟨e, hno⟩ <;> rw [e]
      · -- cleared for a passed-over slice `s`: `j` is newer than the old head as well, else `j < s < j + N` share a residue
        have hj : t.head < j := Nat.lt_of_not_le fun hle =>
          mod_inj_window (Nat.lt_of_le_of_lt hle h1) (Nat.lt_of_le_of_lt h2 hw.2) hs.symm
        exact (cnt_future h j t.head hr.le_head hj).symm
      · -- kept: `j` is not passed over, so it was in the old window
        have hj : j ≤ t.head := Nat.le_of_not_lt fun hlt => hno ⟨j, hlt, hw.1, rfl⟩
        exact hr.slot j ⟨hj, Nat.lt_trans hgt hw.2⟩
    · intro i hi (hnone : ∀ j, inWindow nh j → j % N ≠ i)
      rcases hg i hi with ⟨e, _⟩ | ⟨e, hno⟩ <;> rw [e]
      -- kept: had a slice `j` of the old window owned the slot, `j` would be in the new window or `j + N` passed over
      refine hr.empty i hi fun j hjw hji => ?_
      by_cases hnew : nh < j + N
      · exact hnone j ⟨Nat.le_trans hjw.1 (Nat.le_of_lt hgt), hnew⟩ hji
      · exact hno ⟨j + N, hjw.2, Nat.le_of_not_lt hnew, by rw [Nat.add_mod_right]; exact hji⟩
  · rw [roll_le t nh (Nat.le_of_not_lt hgt)]
    exact ⟨hr, (Nat.max_eq_left (Nat.le_of_not_lt hgt)).symm⟩

def bump (t : Timed) (v : Bool) : Timed :=
  let idx := t.head % N
  let b := t.buckets.getD idx (0, 0)
  if v then { t with buckets := t.buckets.set idx (b.1 + 1, b.2), sumS := t.sumS + 1 }
  else { t with buckets := t.buckets.set idx (b.1, b.2 + 1), sumF := t.sumF + 1 }

theorem bump_eq (t : Timed) (v : Bool) :
    bump t v = { t with
      buckets := t.buckets.set (t.head % N)
        ((t.buckets.getD (t.head % N) (0, 0)).1 + v.toNat, (t.buckets.getD (t.head % N) (0, 0)).2 + (!v).toNat),
      sumS := t.sumS + v.toNat, sumF := t.sumF + (!v).toNat } := by
  cases v <;> rfl

theorem rep_bump (t : Timed) (h : Hist) (hr : TRep t h) (v : Bool) : TRep (bump t v) (h ++ [(t.head, v)]) := by
  have hidx : t.head % N < t.buckets.length := by rw [hr.len]; exact Nat.mod_lt _ (by decide)
  have hcur : inWindow t.head t.head := ⟨Nat.le_refl _, Nat.lt_add_of_pos_right (by decide)⟩
  rw [bump_eq]
  refine ⟨by rw [List.length_set]; exact hr.len, ?_, ?_, ?_, ?_, ?_⟩
  · exact List.forall_mem_append.2 ⟨hr.le_head, List.forall_mem_singleton.2 (Nat.le_refl _)⟩
  · intro j (hw : inWindow t.head j)
    rw [cnt_append, getD_set]
    by_cases hj : j = t.head
    · rw [hj, if_pos rfl, if_pos ⟨rfl, hidx⟩, hr.slot _ hcur]
    · have hne : t.head % N ≠ j % N := (mod_inj_window (Nat.lt_of_le_of_ne hw.1 hj) hw.2).symm
      rw [if_neg hj, if_neg (fun h => hne h.1)]
      exact hr.slot j hw
  · intro i hi hnone
    rw [getD_set, if_neg (fun h => hnone t.head hcur h.1)]
    exact hr.empty i hi hnone
  · show t.sumS + v.toNat = _
    rw [hr.sumS]; exact (sum_map_set_add (0, 0) hidx rfl).symm
  · show t.sumF + (!v).toNat = _
    rw [hr.sumF]; exact (sum_map_set_add (0, 0) hidx rfl).symm

theorem record_eq (t : Timed) (slice : Nat) (v : Bool) : recordAt t slice v = bump (roll t slice) v := rfl

theorem rep_record (t : Timed) (h : Hist) (hr : TRep t h) (slice : Nat) (v : Bool) (hmono : t.head ≤ slice) :
    TRep (recordAt t slice v) (h ++ [(slice, v)]) ∧ (recordAt t slice v).head = slice := by
  obtain ⟨hr1, hh1⟩ := rep_roll t h hr slice
  rw [Nat.max_eq_right hmono] at hh1
  have := rep_bump (roll t slice) h hr1 v
  rw [hh1] at this
  rw [record_eq]
  exact ⟨this, by rw [bump_eq]; exact hh1⟩

theorem TRep.foldl {t : Timed} {pre : Hist} (hr : TRep t pre) (h : Hist) (hs : h.Pairwise (fun a b => a.1 ≤ b.1))
    (hge : ∀ e ∈ h, t.head ≤ e.1) : TRep (h.foldl (fun t e => recordAt t e.1 e.2) t) (pre ++ h) := by
  induction h generalizing t pre with
  | nil => rwa [List.append_nil]
  | cons e es ih =>
    rw [List.pairwise_cons] at hs
    obtain ⟨hr1, hh1⟩ := rep_record t pre hr e.1 e.2 (hge e List.mem_cons_self)
    rw [List.append_cons]
    exact ih hr1 hs.2 fun e' he' => hh1 ▸ hs.1 e' he'

/-- C03: for every history of records at non-decreasing slice indices, the summary counts exactly the results whose
    slice lies in the last N slices ending at the current one (older results never count; the last N-1 full slices always do) -/
theorem buckets_refine_window (p : Int) (h : Hist) (hs : h.Pairwise (fun a b => a.1 ≤ b.1)) :
    let t := h.foldl (fun t e => recordAt t e.1 e.2) (Timed.new p)
    TRep t h :=
  (trep_new p).foldl h hs fun _ _ => Nat.zero_le _

end Failsafe.Breaker
