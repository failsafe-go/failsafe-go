import Failsafe.Lemmas.Layer
import Failsafe.ExecBodies
/-!
# The composition model computes the reference definitions of the regenerated bodies

`Exec.lean` transcribes the executors by hand. This file proves, for the places where a regenerated body exists
(`Generated/X*.lean`, tied to `ExecBodies.lean` by `Tie/X*.lean`), that the transcription computes exactly the reference
definition: the model's cancel answers are `isCanceledWithResult` of the execution state it abstracts, what the model lets user
code read as the last outcome is `LastError` / `CopyWithResult`, the model's retry decision is `retrypolicy.executor.OnFailure`,
its cache layer is `PreExecute` / `PostExecute` of the cache executor, its fallback layer is the fallback executor's `Apply`, one
unfolding of its retry loop is one iteration of `retrypolicy.executor.Apply`, its breaker layer is `PreExecute` / inner / `PostExecute`
of the breaker executor, its limiter layer the limiter executor's `Apply`.
So a change of one of those Go bodies that alters its meaning breaks a tie equality, and the theorems of `Props/` about the
composition model are theorems about what the code says now.
-/
namespace Failsafe.Lemmas.ExecBodiesLink
open Failsafe.Classify Failsafe.Exec
open Failsafe.ExecBodies (XSt RCfg RSt CCfg CSt LoopOps AdmitOps LimitOps)

/-! ## cancellation state -/

/-- the execution state a run abstracts, as far as cancellation goes: a Timeout that fired stored `timeoutResult` and
cancelled the copy's context; `ExecutionResult.Cancel` stored `ErrExecutionCanceled` and cancelled the context; a cancelled /
expired caller context stores nothing -/
def toX (r : Run) : XSt :=
  { lastVal := r.last.val, lastErr := r.last.err,
    cell := if r.cancelled then some timeoutResult else
      match r.ext with
      | some e => if e = Err.execCanceled then some (failureResult e) else none
      | none => none,
    ctxErr := if r.cancelled then some Err.canceled else
      match r.ext with
      | some e => if e = Err.execCanceled then some Err.canceled else some e
      | none => none }

/-- **`Run.isCanc` / `Run.cancelRes` are `isCanceledWithResult`** of the abstracted execution state -/
theorem isCanc_link (r : Run) :
    ExecBodies.isCanc (toX r) = (r.isCanc, if r.isCanc then some r.cancelRes else none) := by
  unfold ExecBodies.isCanc toX Run.isCanc Run.cancelRes
  cases r.cancelled <;> cases r.ext with
  | none => rfl
  | some e => by_cases hx : e = Err.execCanceled <;> simp [hx, failureResult, timeoutResult]

/-- **what the wrapped function reads as its last outcome is `LastResult` / `LastError`** of its copy of the execution (whose
context is done exactly when the execution was cancelled from outside) -/
theorem seenLast_link (r : Run) :
    r.seenLast = ⟨r.last.val, ExecBodies.lastError { lastVal := r.last.val, lastErr := r.last.err,
                                                     ctxErr := if r.ext.isSome then some Err.canceled else none }⟩ := by
  unfold Run.seenLast ExecBodies.lastError
  generalize r.last = l
  rcases l with ⟨v, _ | e⟩ <;> cases r.ext <;> rfl

/-- **what a listener reads from `CopyWithResult(result)`** -/
theorem seenBy_link (r : Run) (o : Outcome) (d s sa : Bool) :
    r.seenBy o =
      (let c := ExecBodies.copyWithResult { ctxErr := if r.ext.isSome || r.cancelled then some Err.canceled else none } (some ⟨o.val, o.err, d, s, sa⟩)
       ⟨c.lastVal, ExecBodies.lastError c⟩) := by
  unfold Run.seenBy ExecBodies.copyWithResult ExecBodies.lastError
  rcases o with ⟨v, _ | e⟩ <;> cases r.ext <;> cases r.cancelled <;> rfl

/-! ## retry decision -/

/-- the retry executor's state at position `pos` of a run -/
def retrySt (r : Run) (pos : Nat) : RSt := { failed := getFailed r pos, exceeded := false, log := [] }

/-- the reference `OnFailure` in closed form: result, count, flag and listener calls -/
theorem retryOnFailure_ref (c : RCfg) (s : RSt) (el : Int) (ab : Bool) (res : PR) :
    ExecBodies.retryOnFailure c s el ab res =
      let exc := ExecBodies.retryExceeded c (s.failed + 1) el
      (if exc && !c.returnLastFailure then ExecBodies.exceededResult res
       else res.withDone (ab || !(!ab && !exc && ExecBodies.allowsRetries c)) false,
       ⟨s.failed + 1, exc, s.log ++ ["onFailure"] ++ (if ab && c.onAbort.isSome then ["onAbort"] else []) ++
          (if exc && !ab && c.onRetriesExceeded.isSome then ["onRetriesExceeded"] else [])⟩) := by
  -- the result is the first component of the definition's final `if`; the state is the same in both its branches
  refine Prod.ext (apply_ite Prod.fst ..) ?_
  unfold ExecBodies.retryOnFailure
  simp only [apply_ite Prod.snd, ite_self]
  by_cases hA : (ab && c.onAbort.isSome) = true <;>
    by_cases hE : (ExecBodies.retryExceeded c (s.failed + 1) el && !ab && c.onRetriesExceeded.isSome) = true <;>
    simp only [hA, hE, if_true, if_false, Bool.false_eq_true, List.append_nil, ExecBodies.rBaseOnFailure, ExecBodies.rOnAbort,
      ExecBodies.rOnRetriesExceeded, ExecBodies.RSt.emit]

/-- **`Exec.retryOnFailure` is `retrypolicy.executor.OnFailure`**: same result, same failed-attempt count, same exceeded
flag, and the same listener calls in the same order (`md`, `elapsed`: any max duration and elapsed time that make the code's
`maxDuration != 0 && ElapsedTime() > maxDuration` what the model's `durExceeded` says) -/
theorem retryOnFailure_link (pos : Nat) (m : Int) (rl : Bool) (abort : List Cond) (res1 : PR) (r : Run)
    (md elapsed : Int) (hd : (md != 0 && decide (elapsed > md)) = durExceeded pos r) :
    let k := ExecBodies.retryOnFailure ⟨m, md, rl, some (), some ()⟩ (retrySt r pos) elapsed (isAbortable abort res1.outcome) res1
    let x := Exec.retryOnFailure pos m rl abort res1 r
    x.1 = k.1 ∧ (getFailed x.2 pos : Int) = k.2.failed ∧
      x.2.exceeded = (if k.2.exceeded then pos :: r.exceeded else r.exceeded) ∧
      x.2.log.map (·.name) = r.log.map (·.name) ++ k.2.log.map ("rp." ++ ·) := by
  -- the two tests of the code, in the model's words
  have he : ExecBodies.retryExceeded ⟨m, md, rl, some (), some ()⟩ ((getFailed r pos : Int) + 1) elapsed =
      (decide (m ≠ -1 ∧ ((getFailed r pos + 1 : Nat) : Int) > m) || durExceeded pos r) := by
    rw [ExecBodies.retryExceeded, hd]; congr 1
    by_cases h1 : m = -1 <;> simp [h1]
  have ha : ExecBodies.allowsRetries ⟨m, md, rl, some (), some ()⟩ = decide (m = -1 ∨ m > 0) := by
    by_cases h1 : m = -1 <;> simp [ExecBodies.allowsRetries, h1]
  intro k x
  have hk : k = _ := retryOnFailure_ref ..
  simp only [retrySt, he, ha, Option.isSome_some, Bool.and_true] at hk
  rw [hk, show x.2 = _ from retryOnFailure_snd ..]
  refine ⟨retryOnFailure_fst .., by simp [getFailed], rfl, ?_⟩
  generalize (decide (m ≠ -1 ∧ ((getFailed r pos + 1 : Nat) : Int) > m) || durExceeded pos r) = exc
  cases exc <;> cases isAbortable abort res1.outcome <;> simp

/-! ## the retry loop -/

/-- the operations one iteration of the retry loop is made of, as the composition model defines them: `res` / `r1` are what the
layer inside returned for this iteration -/
def retryOps (pos : Nat) (m : Int) (rl : Bool) (h a : List Cond) (res : PR) (r1 : Run) : LoopOps Run :=
  { innerV := fun _ => res, innerS := fun _ => r1,
    isCanc := fun r => (r.isCanc, r.cancelRes),
    exceeded := fun r => r.exceeded.contains pos,
    postV := fun r x => if isFailure h x.outcome then (Exec.retryOnFailure pos m rl a x.withFailure r).1 else x.withDone true true,
    postS := fun r x => if isFailure h x.outcome then (Exec.retryOnFailure pos m rl a x.withFailure r).2 else r.emitSeen "rp.onSuccess" pos x.outcome,
    recordV := fun _ _ => none, recordS := fun r x => { r with last := x.outcome },
    delayV := fun _ _ => 0, delayS := fun r _ => r,
    onRetryScheduled := fun r _ _ => (r.emitLast "rp.onRetryScheduled" pos).trigger "rp.onRetryScheduled",
    wait := fun r _ => r,
    initV := fun r => if r.isCanc then some r.cancelRes else none,
    initS := fun r => if r.isCanc then r else { r with attempts := r.attempts + 1, retries := r.retries + 1 },
    onRetry := fun r _ => r.emitLast "rp.onRetry" pos }

/-- **the model's retry loop is the code's loop**: one unfolding of `Exec.retryLoop` is one iteration of
`retrypolicy.executor.Apply` (regenerated and tied: `Tie.XRetryLoop.tie_retryIter`) over the model's operations — it ends with the
result the iteration returns, or goes round again from the state the iteration left -/
theorem retryLoop_link (pos : Nat) (m : Int) (rl : Bool) (h a : List Cond) (inner : Layer) (fuel : Nat) (r r1 : Run) (res : PR)
    (hi : inner r = some (res, r1)) :
    retryLoop pos m rl h a inner (fuel + 1) r =
      (match ExecBodies.retryIter (retryOps pos m rl h a res r1) r with
       | (some out, r') => some (out, r')
       | (none, r') => retryLoop pos m rl h a inner fuel r') := by
  rw [retryLoop_succ, hi]
  unfold ExecBodies.retryIter
  -- one test of the iteration at a time: every later step of `retryOps` copies the state, so unfolding them all before the tests
  -- are decided is slow
  by_cases hc : r1.isCanc = true
  · simp only [retryOps, hc, ↓reduceIte]
  by_cases he : r1.exceeded.contains pos = true
  · simp only [retryOps, hc, he, Bool.false_eq_true, ↓reduceIte]
  by_cases hf : isFailure h res.outcome = true
  · simp only [retryOps, hc, he, hf, Bool.false_eq_true, ↓reduceIte, Option.isSome_some]
    generalize Exec.retryOnFailure pos m rl a res.withFailure r1 = x
    by_cases hd : x.1.done = true
    · simp only [hd, ↓reduceIte]
    · simp only [hd, Bool.false_eq_true, ↓reduceIte]
      unfold retryScheduled
      split <;> rfl
  · simp only [retryOps, hc, he, hf, Bool.false_eq_true, ↓reduceIte, PR.withDone]

/-! ## cache layer -/

/-- the cache executor's configuration at a run: the context carries the run's key (a string) or nothing -/
def cacheCfg (r : Run) (key : String) : CCfg := ⟨key, r.ctxKey.map ExecBodies.Raw.str, some (), some (), some ()⟩

theorem getCacheKey_link (r : Run) (key : String) : ExecBodies.getCacheKey (cacheCfg r key) = cacheKeyOf r key := by
  unfold ExecBodies.getCacheKey cacheCfg cacheKeyOf
  cases r.ctxKey <;> rfl

/-- **the model's cache layer is the cache executor's `PreExecute` / `PostExecute`**: a hit is `PreExecute`'s result and nothing
inside runs; on a miss the inner result goes through `PostExecute`, which stores under the same key rule -/
theorem cache_link (fuel pos id : Nat) (key : String) (cif : List Nat) (inner : Layer) (r : Run) :
    applyPolicy fuel pos (.cache id key cif) inner r =
      (let c := cacheCfg r key
       match (ExecBodies.cachePre c ⟨(r.w.caches[id]?).getD [], []⟩).1 with
       | some hit => some (hit, r.emit "ca.onHit" pos)
       | none =>
         match inner (r.emit "ca.onMiss" pos) with
         | none => none
         | some (res, r2) =>
           let post := ExecBodies.cachePost c ⟨(r2.w.caches[id]?).getD [], []⟩ cif.length (cif.any (fun p => predicate p res.outcome)) res
           some (post.1, if post.2.log = [] then r2
                         else ({ r2 with w := { r2.w with caches := r2.w.caches.set id post.2.entries } }).emit "ca.onCache" pos)) := by
  have hlen : (cif.length == 0) = cif.isEmpty := by cases cif <;> rfl
  simp only [applyPolicy, ExecBodies.cachePre, ExecBodies.cachePost, getCacheKey_link, ExecBodies.cacheGet, ExecBodies.cacheSet,
    ExecBodies.cOnHit, ExecBodies.cOnMiss, ExecBodies.cOnCache, ExecBodies.CSt.emit, shouldCache, hlen]
  generalize cacheKeyOf r key = kk
  by_cases hk : (kk != "") = true <;>
    simp only [hk, cacheCfg, Option.isSome_some, Bool.false_eq_true, ↓reduceIte, Bool.and_true, Bool.and_false]
  · cases List.find? (fun x => x.1 == kk) ((r.w.caches[id]?).getD []) with
    | some kv => rfl
    | none =>
      cases inner (r.emit "ca.onMiss" pos) with
      | none => rfl
      | some x => dsimp only; split <;> rfl
  · cases inner (r.emit "ca.onMiss" pos) <;> rfl

/-! ## fallback layer -/

/-- `BaseExecutor.PostExecute` of a policy whose `OnFailure` returns its argument (fallback, breaker): the result it returns -/
def postOf (h : List Cond) : Unit → PR → PR := fun _ x =>
  (ExecBodies.postExecute (σ := Unit) (fun er => isFailure h er.outcome) (fun s a => (a, s)) (fun s _ => s) () x).1

theorem postOf_eq (h : List Cond) (x : PR) :
    postOf h () x = if isFailure h x.outcome then x.withFailure else x.withDone true true := by
  unfold postOf ExecBodies.postExecute; split <;> rfl

/-- the four ways through the fallback executor's `Apply` from a fresh executor state, with what each leaves in the state -/
theorem fallbackApply_new (inner : PR) (post : Unit → PR → PR) (canc : Bool → Bool × PR) (fo : Outcome) (ff : Bool) (oe : Option Unit) :
    ExecBodies.fallbackApply {} inner post canc fo ff oe =
      if (post () inner).success then (post () inner, {})
      else if (canc false).1 then ((canc false).2, {})
      else if (canc true).1 then ((canc true).2, ⟨true, ["fn"]⟩)
      else (⟨fo.val, fo.err, true, !ff, !ff⟩, ⟨true, if oe.isSome then ["fn", "onFallbackExecuted"] else ["fn"]⟩) := by
  cases oe <;> rfl

/-- **the model's fallback layer is the fallback executor's `Apply`** around `BaseExecutor.PostExecute`: same result, and the
fallback function and `OnFallbackExecuted` are called exactly when and in the order the code calls them -/
theorem fallback_link (fuel pos : Nat) (k : FbKind) (h : List Cond) (inner : Layer) (r r1 : Run) (res : PR)
    (hin : inner r = some (res, r1)) :
    let fo : Outcome := match k with | .value v => ⟨v, none⟩ | .error e => ⟨0, some e⟩
    let r2 := if isFailure h res.outcome then r1.emitSeen "fb.onFailure" pos (r1.seenBy res.outcome)
              else r1.emitSeen "fb.onSuccess" pos (r1.seenBy res.outcome)
    let kk := ExecBodies.fallbackApply {} res (postOf h) (fun _ => (r2.isCanc, r2.cancelRes)) fo (isFailure h fo) (some ())
    ∃ r3, applyPolicy fuel pos (.fallback k h) inner r = some (kk.1, r3) ∧
      r3.log.map (·.name) = r2.log.map (·.name) ++ kk.2.log.map (fun n => if n = "fn" then "fb.fn" else "fb." ++ n) := by
  simp only [applyPolicy, hin, fallbackApply_new, postOf_eq]
  by_cases hf : isFailure h res.outcome = true
  · by_cases hc : (r1.emitSeen "fb.onFailure" pos (r1.seenBy res.outcome)).isCanc = true
    · simp only [hf, hc, ↓reduceIte, PR.withFailure, Bool.false_eq_true]
      exact ⟨_, rfl, by simp⟩
    · simp only [hf, hc, ↓reduceIte, PR.withFailure, Bool.false_eq_true]
      exact ⟨_, rfl, by simp [Run.emitSeen, Run.emit]⟩
  · simp only [hf, ↓reduceIte, Bool.false_eq_true, PR.withDone]
    exact ⟨_, rfl, by simp⟩

/-! ## circuit breaker and rate limiter layers -/

/-- the breaker executor's operations as the composition model defines them (breaker instance `id` with configuration `c`, at
position `pos`) -/
def breakerOps (id pos : Nat) (c : Breaker.Cfg) : AdmitOps Run :=
  { tryV := fun r => match r.w.breakers[id]? with | some (c, b) => (Breaker.tryAcquire c b r.w.now).2 | none => false,
    tryS := fun r => match r.w.breakers[id]? with
      | some (c, b) => drainBreaker (updBreaker r id (fun _ _ => (Breaker.tryAcquire c b r.w.now).1)) id pos
      | none => r,
    baseOnSuccess := fun r x => r.emitSeen "cb.onSuccess" pos (r.seenBy x.outcome),
    baseOnFailure := fun r x => r.emitSeen "cb.onFailure" pos (r.seenBy x.outcome),
    recordSuccess := fun r => drainBreaker (updBreaker r id (fun c b => Breaker.record c b r.w.now true false)) id pos,
    recordFailure := fun r _ => drainBreaker (updBreaker r id (fun c b => Breaker.record c b r.w.now false true)) id pos }

/-- **the model's circuit breaker layer is the breaker executor around `BaseExecutor.PostExecute`**: admission (`PreExecute`) before
anything inside runs; then `PostExecute` with the executor's `OnFailure` / `OnSuccess` — listener first, record second -/
theorem breaker_link (fuel pos id : Nat) (h : List Cond) (inner : Layer) (r : Run) (c : Breaker.Cfg) (b : Breaker.B)
    (hb : r.w.breakers[id]? = some (c, b)) :
    applyPolicy fuel pos (.breaker id h) inner r =
      (let ops := breakerOps id pos c
       match ExecBodies.breakerPre ops r with
       | (some rej, r1) => some (rej, r1)
       | (none, r1) =>
         match inner r1 with
         | none => none
         | some (res, r2) =>
           some (ExecBodies.postExecute (fun er => isFailure h er.outcome) (fun s er => ExecBodies.breakerOnFailure ops s er)
                   (fun s er => ExecBodies.breakerOnSuccess ops s er) r2 res)) := by
  simp only [applyPolicy, hb, ExecBodies.breakerPre, breakerOps, ExecBodies.postExecute, ExecBodies.breakerOnFailure,
    ExecBodies.breakerOnSuccess]
  cases (Breaker.tryAcquire c b r.w.now).2
  · rfl
  · simp only [Bool.not_true, Bool.false_eq_true, if_false, if_true]
    cases inner (drainBreaker (updBreaker r id fun _ _ => (Breaker.tryAcquire c b r.w.now).1) id pos) with
    | none => rfl
    | some x => dsimp only; split <;> rfl

/-- the limiter executor's operations in the model (max wait 0: a permit is granted at once or refused) -/
def limiterOps (id pos : Nat) (inner : Layer) (res : PR) (r2 : Run) : LimitOps Run :=
  { acquireV := fun r => match r.w.limiters[id]? with
      | some (c, s) => if (limAcquire c s r.w.now).1 then none else some Err.rate
      | none => some Err.rate,
    acquireS := fun r => match r.w.limiters[id]? with
      | some (c, s) => { r with w := { r.w with limiters := r.w.limiters.set id (c, (limAcquire c s r.w.now).2) } }
      | none => r,
    onExceeded := fun r => r.emit "rl.onRateLimitExceeded" pos,
    innerV := fun _ => res, innerS := fun _ => r2 }

/-- **the model's rate limiter layer is the limiter executor's `Apply`** -/
theorem limiter_link (fuel pos id : Nat) (inner : Layer) (r : Run) (c : LimCfg) (s : LimSt) (hl : r.w.limiters[id]? = some (c, s))
    (res : PR) (r2 : Run)
    (hi : (limAcquire c s r.w.now).1 = true →
      inner { r with w := { r.w with limiters := r.w.limiters.set id (c, (limAcquire c s r.w.now).2) } } = some (res, r2)) :
    applyPolicy fuel pos (.limiter id) inner r = some (ExecBodies.limiterApply (limiterOps id pos inner res r2) r) := by
  simp only [applyPolicy, hl, ExecBodies.limiterApply, limiterOps]
  cases hok : (limAcquire c s r.w.now).1
  · simp [Err.rate, Err.is]
  · simp [hi hok]

end Failsafe.Lemmas.ExecBodiesLink
