import Failsafe.Breaker
import Failsafe.Lemmas.ListAux
/-! `countingStats` (bit ring with head/occupied/running counts) refines "the last `size` results of the history". -/
namespace Failsafe.Breaker

def window (size : Nat) (h : List Bool) : List Bool := h.drop (h.length - size)

/-- appending a result shifts the window: what stays of the old window is its last `size - 1` entries -/
theorem window_snoc {size : Nat} (hs : 0 < size) (h : List Bool) (v : Bool) :
    window size (h ++ [v]) = window (size - 1) h ++ [v] := by
  obtain ⟨m, rfl⟩ : ∃ m, size = m + 1 := ⟨size - 1, (Nat.sub_add_cancel hs).symm⟩
  unfold window
  rw [List.length_append, List.length_singleton, Nat.add_sub_add_right, Nat.add_sub_cancel,
    List.drop_append_of_le_length (Nat.sub_le ..)]

theorem window_of_le {size : Nat} {h : List Bool} (hle : h.length ≤ size) : window size h = h := by
  unfold window
  rw [Nat.sub_eq_zero_of_le hle, List.drop_zero]

/-- a full window is its oldest entry followed by the last `size - 1` -/
theorem window_eq_cons {size : Nat} (hs : 0 < size) {h : List Bool} (hle : size ≤ h.length) :
    window size h = h.getD (h.length - size) false :: window (size - 1) h := by
  have hlt : h.length - size < h.length := Nat.sub_lt (Nat.lt_of_lt_of_le hs hle) hs
  unfold window
  rw [show h.length - (size - 1) = h.length - size + 1 by omega, List.getD_eq_getElem?_getD,
    List.getElem?_eq_getElem hlt, Option.getD_some, List.drop_eq_getElem_cons hlt]

structure Rep (r : Ring) (h : List Bool) : Prop where
  len  : r.bits.length = r.size
  pos  : 0 < r.size
  head : r.head = h.length % r.size
  occ  : r.occ = min h.length r.size
  slot : ∀ k, h.length - r.size ≤ k → k < h.length → r.bits.getD (k % r.size) false = h.getD k false
  succ : r.succ = (window r.size h).count true
  fail : r.fail = (window r.size h).count false

theorem rep_new (size : Nat) (h : 0 < size) : Rep (Ring.new size) [] :=
  ⟨List.length_replicate, h, (Nat.zero_mod _).symm, (Nat.zero_min _).symm, fun _ _ hk => (nomatch hk),
    by simp [window, Ring.new], by simp [window, Ring.new]⟩

/-- `setNext` on the two running counters at once (`b = true`: successes, `b = false`: failures): a full ring gives
up the evicted value, then the new value is counted -/
theorem setNext_counter (r : Ring) (v b : Bool) :
    (if b then (setNext r v).succ else (setNext r v).fail) =
      (if r.occ < r.size then (if b then r.succ else r.fail)
        else (if b then r.succ else r.fail) - if r.bits.getD r.head false == b then 1 else 0) +
      if v == b then 1 else 0 := by
  unfold setNext
  cases b <;> cases v <;> cases r.bits.getD r.head false <;> rfl

theorem rep_setNext (r : Ring) (h : List Bool) (v : Bool) (hr : Rep r h) : Rep (setNext r v) (h ++ [v]) := by
  have hpos := hr.pos
  have hfull : r.occ < r.size ↔ h.length < r.size := by rw [hr.occ]; omega
  have key : ∀ b : Bool, (if b then (setNext r v).succ else (setNext r v).fail) = (window r.size (h ++ [v])).count b := by
    intro b
    have hc : (if b then r.succ else r.fail) = (window r.size h).count b :=
      match b with | true => hr.succ | false => hr.fail
    rw [setNext_counter, window_snoc hpos, List.count_append, List.count_singleton, hc]
    by_cases hlt : h.length < r.size
    · rw [if_pos (hfull.2 hlt), window_of_le (Nat.le_sub_one_of_lt hlt), window_of_le (Nat.le_of_lt hlt)]
    · -- the evicted slot holds the oldest element of the window
      have hle : r.size ≤ h.length := Nat.le_of_not_lt hlt
      have hold : h.getD (h.length - r.size) false = r.bits.getD r.head false := by
        rw [hr.head, Nat.mod_eq_sub_mod hle]
        exact (hr.slot _ (Nat.le_refl _) (by omega)).symm
      rw [if_neg (mt hfull.1 hlt), window_eq_cons hpos hle, hold, List.count_cons, Nat.add_sub_cancel]
  refine ⟨(List.length_set ..).trans hr.len, hpos, ?_, ?_, ?_, key true, key false⟩
  · show (r.head + 1) % r.size = (h ++ [v]).length % r.size
    rw [hr.head, Nat.mod_add_mod, List.length_append, List.length_singleton]
  · show (if r.occ < r.size then r.occ + 1 else r.occ) = min (h ++ [v]).length r.size
    rw [List.length_append, List.length_singleton, hr.occ]
    by_cases hlt : h.length < r.size
    · rw [Nat.min_eq_left (Nat.le_of_lt hlt), if_pos hlt, Nat.min_eq_left hlt]
    · rw [Nat.min_eq_right (Nat.le_of_not_lt hlt), if_neg (Nat.lt_irrefl _), Nat.min_eq_right (by omega)]
  · intro k hk1 hk2
    replace hk1 : (h ++ [v]).length - r.size ≤ k := hk1
    rw [List.length_append, List.length_singleton] at hk1 hk2
    show (r.bits.set r.head v).getD (k % r.size) false = (h ++ [v]).getD k false
    rw [getD_set, List.getD_eq_getElem?_getD (l := h ++ [v])]
    by_cases hkl : k < h.length
    · -- an older entry of the window: its slot is not the one written
      have hne : r.head ≠ k % r.size := fun e =>
        mod_inj_window (size := r.size) hkl (by omega) (by rw [← e, hr.head])
      rw [if_neg (fun e => hne e.1), hr.slot k (by omega) hkl, List.getElem?_append_left hkl, List.getD_eq_getElem?_getD]
    · obtain rfl : k = h.length := by omega
      have hhl : h.length % r.size < r.bits.length := by rw [hr.len]; exact Nat.mod_lt _ hpos
      rw [if_pos ⟨hr.head, hhl⟩, List.getElem?_concat_length]
      rfl

theorem foldl_setNext_size (l : List Bool) (r : Ring) : (l.foldl setNext r).size = r.size :=
  List.foldlRecOn (motive := fun r' : Ring => r'.size = r.size) l setNext rfl fun _ h _ _ => h

theorem Rep.foldl {r : Ring} {pre : List Bool} (hr : Rep r pre) (l : List Bool) :
    Rep (l.foldl setNext r) (pre ++ l) := by
  induction l generalizing r pre with
  | nil => rwa [List.append_nil]
  | cons v vs ih => rw [List.append_cons]; exact ih (rep_setNext r pre v hr)

theorem count_true_add_count_false (l : List Bool) : l.count true + l.count false = l.length := by
  rw [List.length_eq_countP_add_countP (· == true)]
  exact congrArg _ (List.countP_congr fun x _ => by cases x <;> decide)

theorem Rep.counts {r : Ring} {h : List Bool} (hr : Rep r h) : r.succ + r.fail = r.occ := by
  rw [hr.succ, hr.fail, hr.occ, count_true_add_count_false, window, List.length_drop, Nat.sub_sub_eq_min]

theorem ring_refines_lastN (cap : Nat) (hcap : 0 < cap) (h : List Bool) :
    Rep (h.foldl setNext (Ring.new cap)) h :=
  (rep_new cap hcap).foldl h

end Failsafe.Breaker
